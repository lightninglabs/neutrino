/-
C17 — "… from any state: … mid-reorganisation … and the data directory can be reopened
afterwards with the guarantees of C01 and C03 intact": Stop during the roll-back of a
reorganisation (Model/StopReorg.lean).

For EVERY stored chain, fork point, new branch and EVERY moment at which `quit` is closed,
the roll-back of the code (not interruptible) ends at the fork point, so the new branch is
appended exactly where the index says it is: the stores a restart finds are consistent and
hold the old chain up to the fork point followed by the new branch.  A roll-back that
returns `nil` on `quit` (the variant `interruptible = true`) breaks this: counterexample.
`C17_rollback_loop_has_no_quit_exit` ties the choice `interruptible = false` to the
regenerated table of blocking sites (no select on `quit` inside `rollBackToHeight`).
-/
import Neutrino.Lemmas.StopReorg
import Neutrino.Gen.StopSites
namespace Neutrino.StopReorg

/-- The roll-back of the code always reaches the fork point, whenever `quit` is closed. -/
theorem C17_rollback_runs_to_completion (c : List Nat) (h : Nat) (q : Option Nat) (hh : h + 1 ≤ c.length) :
    rollBackQ false h q 0 c.length (ofChain c) = ofChain (c.take (h + 1)) :=
  rollBackQ_ofChain h q c.length 0 c (Nat.le_add_left _ _)

/-- **Stop mid-reorganisation leaves consistent stores** (every chain, fork point, branch and quit moment):
what a restart finds is the old chain up to the fork point followed by the new branch, every index
entry at its file position. -/
theorem C17_stop_mid_reorg_consistent (c branch : List Nat) (h : Nat) (q : Option Nat) (hh : h + 1 ≤ c.length) :
    consistent (reorgQ false (ofChain c) h branch q) = true ∧
    (reorgQ false (ofChain c) h branch q).file = c.take (h + 1) ++ branch := by
  have hlen : (c.take (h + 1)).length = h + 1 := by rw [List.length_take, Nat.min_eq_left hh]
  have hc := consistent_write_ofChain (c.take (h + 1)) branch (by omega)
  rw [hlen] at hc
  rw [reorgQ_false]
  exact ⟨hc, write_file _ _ _⟩

/-- the quit moment is invisible in the stores: same result as with no Stop at all -/
theorem C17_stop_mid_reorg_same_as_no_stop (c branch : List Nat) (h : Nat) (q : Option Nat) (hh : h + 1 ≤ c.length) :
    reorgQ false (ofChain c) h branch q = reorgQ false (ofChain c) h branch none := by
  rw [reorgQ_false, reorgQ_false]

/-- hypotheses are satisfiable, and the statement is not vacuous: Stop before the 2nd of 3 iterations -/
example : reorgQ false (ofChain [0, 1, 2, 3, 4]) 1 [10, 11, 12, 13] (some 1) = ofChain [0, 1, 10, 11, 12, 13] := by decide +kernel

/-- A roll-back that gives up when it sees `quit` (and reports success) leaves the index pointing at the
wrong file positions: the stale headers 2, 3 stay in the file, the branch is indexed at heights 2 … 5. -/
theorem C17_interruptible_rollback_counterexample :
    consistent (reorgQ true (ofChain [0, 1, 2, 3, 4]) 1 [10, 11, 12, 13] (some 1)) = false ∧
    (reorgQ true (ofChain [0, 1, 2, 3, 4]) 1 [10, 11, 12, 13] (some 1)).file = [0, 1, 2, 3, 10, 11, 12, 13] := by decide +kernel

/-- Source tie: no blocking site with a `quit` alternative (nor any select at all) sits in `rollBackToHeight`
itself - the only place the roll-back looks at `quit` is the hand-over of a notification in
`onBlockDisconnected`.  A select added to the loop shows up in the regenerated table. -/
def rollBackSites : List Neutrino.Gen.StopSites.Site :=
  Neutrino.Gen.StopSites.sites.filter fun s =>
    Neutrino.Gen.StopSites.names.getD s.fn "?" == "blockManager.rollBackToHeight"

theorem C17_rollback_loop_has_no_quit_exit : rollBackSites.length = 0 := by decide +kernel

end Neutrino.StopReorg
