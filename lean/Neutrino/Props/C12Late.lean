/-
C12 — results that arrive after their worker's address was taken over.

`workers` is keyed by address.  The peer handler announces a new connection
while the worker of the previous connection under the same address may still
hold a job and still owes the dispatcher exactly one result for it
(`C12_worker_reports`).  `Ev2.late` is that result reaching the dispatcher after
the reconnect (`Model/Dispatcher.lean`, `swapIn`).  The theorems below restate
the clauses of the property for every history that contains such results, and
add the invariant they rest on: a job is in exactly one place.
-/
import Neutrino.Props.C12
import Neutrino.Lemmas.DispatcherLate
namespace Neutrino.Disp

/-- **A job is in at most one place** — in every state reachable through any
list of dispatcher events and late results (peers reconnecting under an address
whose worker holds a job included), the job indices found in the work heap, in
the `activeJob` slot of a tracked worker, and in flight at a worker whose
address was taken over are pairwise distinct: no request exists twice. -/
theorem C12_job_once (es : List Ev2) : ((jobsOf (run2 init es)).map (·.idx)).Nodup :=
  (inv_run2 init es KW_init invA_init).1.idx_nodup

/-- the same, by place: a job waiting in the heap is not also in flight anywhere (tracked worker or overtaken one),
and a job held by a tracked worker is not also in flight at an overtaken one -/
theorem C12_job_once_places (es : List Ev2) :
    (∀ j ∈ (run2 init es).work, ∀ j' ∈ actives (run2 init es).workers ++ (run2 init es).lost, j.idx ≠ j'.idx) ∧
    (∀ j ∈ actives (run2 init es).workers, ∀ j' ∈ (run2 init es).lost, j.idx ≠ j'.idx) := by
  have h := C12_job_once es
  unfold jobsOf at h
  rw [List.map_append, List.nodup_append] at h
  obtain ⟨_, h2, h3⟩ := h
  rw [List.map_append, List.nodup_append] at h2
  refine ⟨fun j hj j' hj' => h3 _ (List.mem_map_of_mem hj) _ (List.mem_map_of_mem hj'),
          fun j hj j' hj' => h2.2.2 _ (List.mem_map_of_mem hj) _ (List.mem_map_of_mem hj')⟩

/-- **At most one verdict**, late results included. -/
theorem C12_at_most_once_late (es : List Ev2) (b : Nat) : verdictCount (run2 init es) b ≤ 1 :=
  (inv_run2 init es KW_init invA_init).2.verdicts_le_one b

/-- **Success means all answered**, late results included: a nil verdict for batch `b` implies that every request
index of `b` was reported finished OK — whichever worker, tracked or overtaken, reported it. -/
theorem C12_success_all_late (es : List Ev2) (b : Nat)
    (hv : (b, Verdict.res .ok) ∈ (run2 init es).verdicts) :
    ∀ sub ∈ (run2 init es).subs, sub.id = b →
      ∀ i, sub.first ≤ i → i < sub.first + sub.count → i ∈ (run2 init es).okd := by
  intro sub hs hid
  exact (inv_run2 init es KW_init invA_init).1.k.done sub hs (hid ▸ hv)

/-- The seeded ordering (C12g-1: the peer-connected arm pushes the overtaken worker's job back onto the heap at
once, while that worker still holds it) breaks the invariant at the reconnect … -/
theorem C12_requeue_on_reconnect_counterexample :
    let s := (stepPeerRequeue (run init [.peer 1, .newBatch 2 false 2 false false, .accept 1]) 1).1
    ¬ ((jobsOf s).map (·.idx)).Nodup := by decide +kernel

/-- … and with it "success means all answered": request 0 is answered by the new worker and, late, by the old one;
both answers are counted, batch 0 of two requests reports success, request 1 was never answered. -/
theorem C12_requeue_on_reconnect_success_counterexample :
    let s := (stepPeerRequeue (run init [.peer 1, .newBatch 2 false 2 false false, .accept 1]) 1).1
    let s' := run2 s [.base (.accept 1), .base (.result 1 .ok), .base (.accept 1), .late 1 0 .ok]
    (0, Verdict.res .ok) ∈ s'.verdicts ∧ 1 ∉ s'.okd := by decide +kernel

/-! Non-vacuity: a history with an overtaking reconnect and a late result. -/
def demoLate : List Ev2 :=
  [.base (.peer 1), .base (.newBatch 2 false 2 false false), .base (.accept 1), .base (.peer 1),
   .base (.accept 1), .base (.result 1 .ok), .late 1 0 .disconnected, .base (.accept 1), .base (.result 1 .ok)]

example : (run2 init (demoLate.take 4)).lost.map (·.idx) = [0] ∧ (run2 init (demoLate.take 4)).work.map (·.idx) = [1] := by decide +kernel
example : (run2 init (demoLate.take 7)).lost = [] ∧ (run2 init (demoLate.take 7)).work.map (·.idx) = [0] := by decide +kernel
example : (run2 init demoLate).verdicts = [(0, .res .ok)] ∧ (run2 init demoLate).okd = [0, 1] := by decide +kernel

end Neutrino.Disp
