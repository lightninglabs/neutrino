/-
C05 — a compact filter is returned only if it matches the committed filter
header.  Property theorems only; lemmas live in Neutrino/Lemmas/GetCFilter.lean.

All theorems quantify over every response stream (any order, duplication,
omission, corruption), every batching mode and size, every chain length / lag
of the filter tip, an adversarial dispatcher (stops or not after `Finished`,
any verdict) and every hashing `H`, `fhash`.
-/
import Neutrino.Lemmas.GetCFilter
import Neutrino.Gen.Query
namespace Neutrino.GetCFilter
open Neutrino

instance (hs : Hashing) (fhs : List Nat) (b f : Nat) : Decidable (Good hs fhs b f) := by
  unfold Good; infer_instance

instance (hs : Hashing) (fhs : List Nat) (st : Store) : Decidable (StoreOk hs fhs st) := by
  unfold StoreOk; infer_instance

/-- **C05, full strength** (false for the code, see `C05_sound_counterexample`):
after any history of calls, header re-commits and restarts, whatever `GetCFilter`
returns for a block — fresh, from the cache or from the database — hashes with
the committed header of the previous block to the committed header of that
block, and so does every cached and every persisted filter. -/
def C05_sound_statement : Prop :=
  ∀ (hs : Hashing) (cap tip : Nat) (fhs : List Nat) (persist : Bool) (ops : List Op) (c : Call), 1 ≤ fhs.length →
    let s := run hs (init cap tip fhs persist) ops
    (∀ fid, (getCFilter hs s c).result = .ret fid → Good hs s.chain.fhs c.target fid) ∧
    (∀ e ∈ s.store.cache.items, Good hs s.chain.fhs e.key e.vid) ∧
    (∀ p ∈ s.store.db, Good hs s.chain.fhs p.1 p.2)

/-- the hashing used in the closed examples: `H(fhash, prev) = 10·fhash + prev` -/
def exHash : Hashing := { fhash := id, H := fun f p => 10 * f + p }

/-- a filter for block 1 is fetched and verified against headers `[1, 51]`; the
filter headers are then re-committed as `[1, 61]`; the next call returns the old
filter 5 from the cache (and the database still holds it). -/
def exOps : List Op :=
  [.get { target := 1, batch := .none, maxBatch := 0, resps := [⟨true, true, 1, true, 5, 4⟩], cont := false, verdict := .nil },
   .recommit 1 [61]]

def exCall : Call := { target := 1, batch := .none, maxBatch := 0, resps := [], cont := false, verdict := .nil }

theorem C05_sound_counterexample : ¬ C05_sound_statement := by
  intro h
  have h1 := (h exHash 100 1 [1, 51] true exOps exCall (by decide)).1 5
  revert h1
  decide +kernel

/-- the same after a restart: the cache is gone, the database answers -/
theorem C05_sound_counterexample_db :
    (getCFilter exHash (run exHash (init 100 1 [1, 51] true) (exOps ++ [.restart])) exCall).result = .ret 5 ∧
    (getCFilter exHash (run exHash (init 100 1 [1, 51] true) (exOps ++ [.restart])) exCall).source = .db ∧
    ¬ Good exHash [1, 61] 1 5 := by decide +kernel

/-- **C05 under the excluded shape**: if no re-commit of filter headers changes
the committed (previous header, header) pair of a block whose filter is cached
or persisted (`opsStable`, the predicate behind `shape=db-filter-after-header-change`),
the full statement holds. -/
theorem C05_sound_partial (hs : Hashing) (cap tip : Nat) (fhs : List Nat) (persist : Bool) (ops : List Op) (c : Call)
    (hne : 1 ≤ fhs.length) (hst : opsStable hs (init cap tip fhs persist) ops = true) :
    let s := run hs (init cap tip fhs persist) ops
    (∀ fid, (getCFilter hs s c).result = .ret fid → Good hs s.chain.fhs c.target fid) ∧
    (∀ e ∈ s.store.cache.items, Good hs s.chain.fhs e.key e.vid) ∧
    (∀ p ∈ s.store.db, Good hs s.chain.fhs p.1 p.2) := by
  intro s
  have hi : Inv hs s := run_inv hs ops _ (init_inv hs cap tip fhs persist hne) hst
  exact ⟨(getCFilter_ok hs s c hi.1 hi.2).2, hi.2.1, hi.2.2⟩

example : opsStable exHash (init 100 1 [1, 51] true)
    [.get { target := 1, batch := .none, maxBatch := 0, resps := [⟨true, true, 1, true, 5, 4⟩], cont := false, verdict := .nil },
     .restart, .recommit 2 [7]] = true := by decide +kernel

/-- **C05 for one call against the headers committed when it was prepared**
(no hypothesis on the history other than that the stores were consistent when
the call started): what is returned, and everything the call leaves in the cache
and the database, matches those headers. -/
theorem C05_sound (hs : Hashing) (s : State) (c : Call) (hne : 1 ≤ s.chain.fhs.length)
    (hst : StoreOk hs s.chain.fhs s.store) :
    (∀ fid, (getCFilter hs s c).result = .ret fid → Good hs s.chain.fhs c.target fid) ∧
    StoreOk hs s.chain.fhs (getCFilter hs s c).st.store :=
  ⟨(getCFilter_ok hs s c hne hst).2, (getCFilter_ok hs s c hne hst).1⟩

/-- **A read of the filter database is a snapshot read.**  `FetchFilter` decodes
(copies) the value inside its read transaction, so whatever writers commit after
the transaction was closed — any number of transactions, pages freed and re-used,
the file re-mapped, modelled by an arbitrary `garble` of bytes read too late —
the call returns what the snapshot held. -/
theorem C05_db_read_is_snapshot (garble : Nat → Nat) (db ws : List (Nat × Nat)) (k : Nat) :
    dbFetch true garble db ws k = lookup db k := dbFetch_inTx garble db ws k

/-- **C05 for one call with concurrent writers** committing between the end of
the call's database read transaction and whatever it does next: if the stores
were consistent and the writers persist matching filters (the batch writer
persists what `handleResponse` verified), what is returned and everything left
in the cache and the database matches the committed headers — for every `garble`. -/
theorem C05_sound_concurrent_writer (garble : Nat → Nat) (hs : Hashing) (s : State) (c : Call) (ws : List (Nat × Nat))
    (hne : 1 ≤ s.chain.fhs.length) (hst : StoreOk hs s.chain.fhs s.store)
    (hws : ∀ p ∈ ws, Good hs s.chain.fhs p.1 p.2) :
    (∀ fid, (getCFilterW true garble hs s c ws).result = .ret fid → Good hs s.chain.fhs c.target fid) ∧
    StoreOk hs s.chain.fhs (getCFilterW true garble hs s c ws).st.store :=
  ⟨(getCFilterW_ok garble hs s c ws hne hst hws).2.1, (getCFilterW_ok garble hs s c ws hne hst hws).1⟩

def exGet1 : Op :=
  .get { target := 1, batch := .none, maxBatch := 0, resps := [⟨true, true, 1, true, 5, 4⟩], cont := false, verdict := .nil }

example : StoreOk exHash [1, 51, 561] (run exHash (init 100 2 [1, 51, 561] true) [exGet1, .restart]).store ∧
    Good exHash [1, 51, 561] 2 51 := by decide +kernel

/-- **Decoding after the read transaction is a counterexample**: the database
holds the verified filter 5 of block 1, a writer persists the verified filter of
block 2 right after the read transaction; decoded inside the transaction the call
returns filter 5, decoded afterwards it returns the garbled bytes, which do not
match the committed header — although the database never held anything wrong. -/
def exS2 : State := run exHash (init 100 2 [1, 51, 561] true) [exGet1, .restart]

theorem C05_decode_after_tx_counterexample :
    StoreOk exHash exS2.chain.fhs exS2.store ∧ Good exHash exS2.chain.fhs 2 51 ∧
    (getCFilterW true (· + 1) exHash exS2 exCall [(2, 51)]).result = .ret 5 ∧
    (getCFilterW false (· + 1) exHash exS2 exCall [(2, 51)]).result = .ret 6 ∧
    (getCFilterW false (· + 1) exHash exS2 exCall [(2, 51)]).source = .db ∧
    ¬ Good exHash exS2.chain.fhs 1 6 := by decide +kernel

/-- **Only validated filters enter the cache.**  A cache fill that checks each
(block, filter) pair against the headers committed NOW keeps every cached filter
matching — whatever pairs it is offered (stale database entries after a header
change, filters paired with the wrong block, anything), and it does not touch the
database. -/
theorem C05_cache_fill_validated (hs : Hashing) (fhs : List Nat) (st : Store) (kvs : List (Nat × Nat × Nat))
    (h : ∀ e ∈ st.cache.items, Good hs fhs e.key e.vid) :
    (∀ e ∈ (cacheFillChecked hs fhs st kvs).cache.items, Good hs fhs e.key e.vid) ∧
    (cacheFillChecked hs fhs st kvs).db = st.db :=
  ⟨cacheFillChecked_ok hs fhs kvs st h, cacheFillChecked_db hs fhs kvs st⟩

/-- a read-ahead from the database that validates is sound for every set of asked blocks and every database -/
theorem C05_read_ahead_checked (hs : Hashing) (fhs : List Nat) (st : Store) (ks : List Nat)
    (h : StoreOk hs fhs st) : StoreOk hs fhs (readAheadChecked hs fhs st ks) := by
  unfold readAheadChecked
  exact ⟨cacheFillChecked_ok hs fhs _ st h.1, by rw [cacheFillChecked_db]; exact h.2⟩

example : StoreOk exHash [1, 51, 561, 631] { cache := { cap := 100 }, db := [(3, 7), (1, 5)] } ∧
    (readAheadChecked exHash [1, 51, 561, 631] { cache := { cap := 100 }, db := [(3, 7), (2, 51), (1, 5)] } [2, 3]).cache.items.length = 2 := by
  decide +kernel

/-- **A read-ahead step that skips the validation is a counterexample.**  The
database holds the verified filters of blocks 1 and 3 (nothing for block 2); the
stored filters of blocks [2, 3] come back with the missing one left out and are
paired with the asked blocks by position: the filter of block 3 enters the cache
under block 2 and the next call for block 2 returns it.  The validated fill
offered the same pairs leaves the cache empty. -/
def exFhs3 : List Nat := [1, 51, 561, 631]
def exGapStore : Store := { cache := { cap := 100 }, db := [(3, 7), (1, 5)] }
def exCall2 : Call := { target := 2, batch := .none, maxBatch := 0, resps := [], cont := false, verdict := .nil }

theorem C05_read_ahead_unchecked_counterexample :
    StoreOk exHash exFhs3 exGapStore ∧
    ¬ (∀ e ∈ (readAheadNaive exGapStore [2, 3]).cache.items, Good exHash exFhs3 e.key e.vid) ∧
    (getCFilter exHash { chain := { tip := 3, fhs := exFhs3 }, store := readAheadNaive exGapStore [2, 3] } exCall2).result = .ret 7 ∧
    ¬ Good exHash exFhs3 2 7 ∧
    (readAheadChecked exHash exFhs3 exGapStore [2, 3]).cache.items.isEmpty = true := by decide +kernel

/-- the same after a header change: an unvalidated fill copies the stale database
entry into the cache (a second, new way for it to be returned); the validated fill
refuses it -/
def exS3 : State := run exHash (init 100 1 [1, 51] true) (exOps ++ [.restart])

theorem C05_read_ahead_stale_counterexample :
    exS3.store.cache.items.isEmpty = true ∧
    ¬ (∀ e ∈ (readAheadNaive exS3.store [1]).cache.items, Good exHash exS3.chain.fhs e.key e.vid) ∧
    (readAheadChecked exHash exS3.chain.fhs exS3.store [1]).cache.items.isEmpty = true := by decide +kernel

/-- **Rejected kinds.**  A response that is not a cfilter message, has another
filter type, names a block that is not (or no longer: duplicates) awaited,
does not deserialize, or does not hash to the committed header, changes nothing
— query, cache and database stay as they are — and reports no progress; and a
block that was accepted is no longer awaited. -/
theorem C05_reject (hs : Hashing) (q : Query) (st : Store) (r : Resp)
    (h : r.isCFilter = false ∨ r.ftypeOk = false ∨ lookup q.index r.blk = none ∨ r.decodes = false ∨
      (∀ i, lookup q.index r.blk = some i → hs.hdr r.fid (q.fhdrs.getD (i - 1) 0) ≠ q.fhdrs.getD i 0)) :
    handle hs (q, st) r = ((q, st), .none) ∧
    (∀ r' : Resp, lookup (accept q st r').1.1.index r'.blk = none) :=
  ⟨handle_reject hs (q, st) r (verify_none_of hs q r h), fun r' => lookup_eraseKey_self _ _⟩

/-- **A duplicate is never accepted.**  Once a response for a block has made
progress, that block is not awaited any more — not right away and not after any
further responses (any peers, any order) — so every later response naming it,
the very same valid filter included, is rejected without touching the query, the
cache or the database and without progress. -/
theorem C05_duplicate_rejected (hs : Hashing) (qs : Query × Store) (r : Resp) (cont : Bool) (rs : List Resp)
    (h : (handle hs qs r).2 ≠ .none) :
    let after := (feed hs cont (handle hs qs r).1 rs).1
    lookup after.1.index r.blk = none ∧
    ∀ r' : Resp, r'.blk = r.blk → handle hs after r' = (after, .none) := by
  intro after
  have hl : lookup after.1.index r.blk = none :=
    feed_lookup_none hs cont rs r.blk _ (handle_accepted_not_awaited hs qs r h)
  refine ⟨hl, fun r' hb => handle_reject hs after r' (verify_none_of hs after.1 r' ?_)⟩
  right; right; left
  rw [hb]; exact hl

example : (feed exHash false
      (⟨1, 2, [1, 51, 561], [(1, 1), (2, 2)], 2, none⟩, { cache := { cap := 100 } })
      [⟨true, true, 1, true, 5, 4⟩, ⟨true, true, 1, true, 5, 4⟩, ⟨true, true, 1, true, 5, 4⟩]).2 =
    [.progressed, .none, .none] := by decide +kernel

/-- **Complete means everything was received.**  If the handler ever answers
`Finished` for a prepared query, nothing is awaited any more, and every block of
the prepared range [start, stop] was answered by a response of the stream that
passed all tests when it arrived (and, by `C05_duplicate_rejected`, exactly one
per block made progress): a batch is never reported complete with filters
missing. -/
theorem C05_complete_all_received (hs : Hashing) (c : Chain) (t : Nat) (bt : Batch) (mb : Int) (q : Query)
    (st : Store) (cont : Bool) (rs : List Resp) (hp : prepare c t bt mb = .ok q)
    (hf : Progress.finished ∈ (feed hs cont (q, st) rs).2) :
    (feed hs cont (q, st) rs).1.1.index = [] ∧
    ∀ b : Nat, q.start ≤ (b : Int) → (b : Int) ≤ q.stop →
      ∃ r ∈ rs, r.blk = b ∧ r.isCFilter = true ∧ r.ftypeOk = true ∧ r.decodes = true := by
  have hnil := feed_finished_index hs cont rs (q, st) hf
  refine ⟨hnil, fun b h1 h2 => ?_⟩
  obtain ⟨i, hi⟩ := prepare_covers c t bt mb q hp b h1 h2
  rcases feed_received hs cont rs (q, st) (b, i) hi with h | h
  · rw [hnil] at h; cases h
  · exact h

/-- **The requested filter is recognised by its block hash, not by its position.**
For ANY query (however its index and headers were obtained) and any stream:
if the requested hash is not among the awaited blocks, `targetFilter` stays
unset — so `GetCFilter` fails with `ErrFilterFetchFailed` rather than return the
filter of whatever block sits at the requested block's position. -/
theorem C05_target_by_hash (hs : Hashing) (cont : Bool) (rs : List Resp) (q : Query) (st : Store)
    (hnone : q.found = none) (hna : ∀ i, (q.target, i) ∉ q.index) :
    (feed hs cont (q, st) rs).1.1.found = none :=
  feed_target_not_awaited hs cont rs (q, st) hnone hna

/-- **A reorganisation between the by-hash and the by-height lookups of
`prepareCFiltersQuery`.**  If the chain read afterwards has another block at the
requested block's height (`t` above the fork point), the prepared query awaits
the new chain's blocks, not the requested hash, and whatever the peers send —
the verified filter of the replacement block included — the call does not
return a filter: with nothing cached or persisted for the hash it fails. -/
theorem C05_reorged_target_fails (hs : Hashing) (s : State) (rg : Reorg) (c : Call)
    (htip : s.chain.tip < altBase) (hfork : rg.fork < c.target)
    (hc : ∀ e ∈ s.store.cache.items, e.key ≠ c.target) (hd : lookup s.store.db c.target = none) :
    (getCFilterReorg hs s rg c).result.isRet = false := by
  unfold getCFilterReorg
  split
  · rfl
  · rcases GetBlock.spec_get s.store.cache c.target with ⟨e, he, hk, _⟩ | ⟨_, heq⟩
    · exact absurd hk (hc e he)
    · simp only [heq, hd]
      cases hp : prepareReorg s.chain rg c.target c.batch c.maxBatch with
      | error e => rfl
      | ok q =>
        obtain ⟨ht, hn, hidx⟩ := prepareReorg_index s.chain rg c.target c.batch c.maxBatch q htip hp
        have hf := feed_target_not_awaited hs c.cont c.resps (q, s.store) hn (by rw [ht]; exact hidx hfork)
        simp only
        cases c.verdict <;> simp only [hf] <;> rfl

example : (getCFilterReorg exHash (init 100 3 [1, 51, 561, 5671] true) ⟨1, 3, [1, 51, 141, 1551]⟩
      { target := 2, batch := .none, maxBatch := 0, resps := [⟨true, true, altBase + 2, true, 9, 4⟩],
        cont := false, verdict := .nil }).result = .errFetchFailed ∧
    (getCFilterReorg exHash (init 100 3 [1, 51, 561, 5671] true) ⟨1, 3, [1, 51, 141, 1551]⟩
      { target := 2, batch := .none, maxBatch := 0, resps := [⟨true, true, altBase + 2, true, 9, 4⟩],
        cont := false, verdict := .nil }).prog = [.finished] := by decide +kernel

/-- the handler makes progress exactly when all tests pass -/
theorem C05_progress_iff (hs : Hashing) (qs : Query × Store) (r : Resp) :
    (handle hs qs r).2 ≠ .none ↔ (verify hs qs.1 r).isSome = true := handle_progress_iff hs qs r

/-- **Fail closed.**  With nothing in the cache or the database for the block,
a call whose dispatcher does not report success, or none of whose responses
passes the tests, fails; in the second case nothing is stored either. -/
theorem C05_fail_closed (hs : Hashing) (s : State) (c : Call)
    (hne : 1 ≤ s.chain.fhs.length)
    (hc : ∀ e ∈ s.store.cache.items, e.key ≠ c.target) (hd : lookup s.store.db c.target = none) :
    (c.verdict ≠ .nil → (getCFilter hs s c).result.isRet = false) ∧
    ((∀ q, prepare s.chain c.target c.batch c.maxBatch = .ok q →
        ∀ (q' : Query) (r : Resp), r ∈ c.resps → q'.index = q.index → q'.fhdrs = q.fhdrs → verify hs q' r = none) →
      (getCFilter hs s c).result.isRet = false ∧ (getCFilter hs s c).st.store = s.store) := by
  rcases getCFilter_cases hs s c with ⟨_, he⟩ | ⟨e, hmem, hk, _⟩ | ⟨_, fid, hl, _⟩ | ⟨_, _, he⟩
  · rw [he]; exact ⟨fun _ => rfl, fun _ => ⟨rfl, rfl⟩⟩
  · exact absurd hk (hc e hmem)
  · rw [hd] at hl; cases hl
  · rw [he]
    rcases afterMiss_shape hs s c with ⟨_, he'⟩ | ⟨q, res, _, hp, he', hres⟩ <;> rw [he']
    · exact ⟨fun _ => rfl, fun _ => ⟨rfl, rfl⟩⟩
    · refine ⟨fun hv => hres.elim id fun h => absurd h.1 hv, fun hall => ?_⟩
      have hfeed := feed_all_rejected hs c.cont c.resps (q, s.store) fun r hr => hall q hp q r hr rfl rfl
      refine ⟨hres.elim id fun ⟨_, r, hf, _⟩ => ?_, by rw [hfeed]⟩
      obtain ⟨_, _, rfl⟩ := prepare_ok_iff.mp hp
      rw [hfeed] at hf
      cases hf

/-- **The prepared range** for a block with committed headers (1 ≤ height ≤
min(block tip, filter tip)), in every batching mode and for every requested
batch size (also ≤ 0 and above the limit): contains the target, lies within
[1, best], has at most `wire.MaxGetCFiltersReqRange` = 1000 filters, at most
`maxBatch` when that is a proper limit, and is the single block without batching.
Holds in particular at block 1, at the tip and at limit ±1. -/
theorem C05_range (c : Chain) (t : Nat) (bt : Batch) (mb : Int) (q : Query)
    (h1 : 1 ≤ t) (h2 : t ≤ c.best) (hne : 1 ≤ c.fhs.length) (hp : prepare c t bt mb = .ok q) :
    1 ≤ q.start ∧ q.start ≤ t ∧ (t : Int) ≤ q.stop ∧ q.stop ≤ c.best ∧ q.stop - q.start + 1 ≤ maxRange ∧
    (0 < mb ∧ mb < maxRange → q.stop - q.start + 1 ≤ mb) ∧ (bt = .none → q.start = t ∧ q.stop = t) :=
  prepare_range hp h1

/-- **Index ↔ header alignment of a prepared query** (any mode, size, boundary):
every awaited block `b` is mapped to a position `i ≥ 1` of the query's private
header slice such that `filterHeaders[i]` is the committed header of `b` and
`filterHeaders[i-1]` the committed header of the block before `b` — so a response
naming `b` is checked against the headers of `b` and of no other block (a
genuine filter of another block relabelled as `b` is rejected, `C05_reject`). -/
theorem C05_index_aligned (c : Chain) (t : Nat) (bt : Batch) (mb : Int) (q : Query)
    (hne : 1 ≤ c.fhs.length) (hp : prepare c t bt mb = .ok q) :
    ∀ p ∈ q.index, 1 ≤ p.2 ∧ 1 ≤ p.1 ∧ p.1 < c.fhs.length ∧
      q.fhdrs.getD p.2 0 = c.fhs.getD p.1 0 ∧ q.fhdrs.getD (p.2 - 1) 0 = c.fhs.getD (p.1 - 1) 0 := by
  obtain ⟨_, h0, rfl⟩ := prepare_ok_iff.mp hp
  exact queryOf_aligned c t (rangeOf_bounds ..).1 (rangeOf_bounds ..).2 h0 hne

/-- a known block with committed headers always gets a query -/
theorem C05_range_total (c : Chain) (t : Nat) (bt : Batch) (mb : Int) (h1 : 1 ≤ t) (h2 : t ≤ c.best) :
    ∃ q, prepare c t bt mb = .ok q := by
  obtain ⟨_, a, b, _⟩ := rangeOf_spec t c.best bt mb (Int.ofNat_le.mpr h1) (Int.ofNat_le.mpr h2)
  exact ⟨_, prepare_ok_iff.mpr ⟨h2, Int.le_add_one (Int.sub_nonneg_of_le (Int.le_trans a b)), rfl⟩⟩

/-- **No query above the filter-header tip**: for a block whose filter header is not committed (height above
min(block tip, filter tip)) `prepareCFiltersQuery` fails in every batching mode — no request is sent, nothing can
be cached or returned for it — and conversely a prepared query's target is committed. -/
theorem C05_no_query_above_tip (c : Chain) (t : Nat) (bt : Batch) (mb : Int) (h : t > c.best) :
    ∃ e, prepare c t bt mb = .error e := by
  cases hp : prepare c t bt mb with
  | error e => exact ⟨e, rfl⟩
  | ok q => exact absurd (prepare_ok_iff.mp hp).1 (Nat.not_le.mpr h)

theorem C05_prepared_target_committed (c : Chain) (t : Nat) (bt : Batch) (mb : Int) (q : Query)
    (hp : prepare c t bt mb = .ok q) : t ≤ c.best :=
  (prepare_ok_iff.mp hp).1

example : (rangeOf 1 1100 .reverse 0) = (1, 1) ∧ (rangeOf 1100 1100 .forward 5) = (1100, 1100) ∧
    (rangeOf 50 1100 .forward 1001) = (50, 1049) ∧ (rangeOf 50 1100 .forward 999) = (50, 1048) ∧
    (rangeOf 1050 1100 .reverse (-1)) = (51, 1050) := by decide +kernel

/-- **What the proofs rely on in query.go** (regenerated on every run): the
tests of `handleResponse` in the order of `verify`, every rejecting branch is a
bare `return noProgress`, the recomputation uses `filterHeaders[i-1]` and is
compared with `filterHeaders[i]`, cache / persist / delete come after all of
them, and `GetCFilter` looks up cache → database → (lock) cache → prepare → query and
returns `targetFilter` or fails.  (That the arithmetic of `prepareCFiltersQuery` is the
one of `rangeOf` is not a textual fact: the function is translated on every run and
`C05_trans_prepareCFiltersQuery` / `C05_trans_headerIndex` in Props/C05Trans.lean prove it.) -/
theorem C05_source_facts :
    Gen.Query.cfSteps = ["reqtype", "type", "reqftype", "ftype", "index", "decode", "headers", "rehash", "compare",
      "target", "cache", "persist", "delete", "more", "finish"] ∧
    Gen.Query.cfGuards = 8 ∧ Gen.Query.cfGuardsPure = true ∧
    Gen.Query.cfCurHeader = "q.filterHeaders[i]" ∧ Gen.Query.cfPrevHeader = "q.filterHeaders[i-1]" ∧
    Gen.Query.cfRehashArgs = "filter, prevHeader" ∧
    Gen.Query.getCFilterOrder = ["cache", "db", "lock", "deferUnlock", "cache", "prepare", "query"] ∧
    Gen.Query.getCFilterReturnsTargetOrFails = true :=
  ⟨rfl, rfl, rfl, rfl, rfl, rfl, rfl, rfl⟩

/-- **What the database-layer and cache theorems rely on** (regenerated on every run):
`filterdb.FetchFilter` decodes (copies) the stored bytes inside the `walletdb.View` closure and no value
read from the bucket outlives the closure (`dbFetch` with `inTx = true`, `C05_db_read_is_snapshot`); a
filter enters the memory cache through `putFilterToCache` only, and the only caller of that is
`cfiltersQuery.handleResponse`, after every test passed (`accept`; any other fill would have to be a
`cacheFillChecked`, `C05_cache_fill_validated`).  `filterdb` and `headerfs` keep no package-level state
shared by the stores of one process apart from the package logger and the pool of read buffers (`pkgLevelState`: every
package-level `var` that is not a named byte string, an error value or a `var _` assertion): what a
store holds depends on its own files and chain parameters only (`openStore` with `keyOf = id`,
`C05_genesis_per_network`; `FHStore` with an empty `mem`, `C05_verification_headers_are_committed`). -/
theorem C05_store_source_facts :
    Gen.Query.fetchDecodesInTx = true ∧
    Gen.Query.cachePutCallers = ["cfiltersQuery.handleResponse"] ∧
    Gen.Query.cachePutSites = ["ChainService.putFilterToCache"] ∧
    Gen.Query.pkgLevelState = ["filterdb.log:other", "headerfs.headerBufPool:pool"] :=
  ⟨rfl, rfl, rfl, rfl⟩

end Neutrino.GetCFilter
