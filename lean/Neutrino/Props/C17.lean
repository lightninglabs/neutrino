/-
C17 — Stop always completes and releases every blocked caller (PARTIAL).

What is proved here is a statement about tables: the table of blocking sites and
the Stop order are regenerated from the source on every run (`Gen.StopSites`),
the discharge table (`Model/ShutdownDischarge.lean`) is hand-written and
reviewed.  Wall-clock bounds are observed by the `stop` driver, not proved.
-/
import Neutrino.Model.ShutdownDischarge
import Neutrino.Lemmas.Shutdown
namespace Neutrino.Shutdown
open Neutrino.Gen.StopSites

/-- classification of a site on the extracted order/events with the reviewed discharge table -/
def siteOk (s : Site) : Bool := siteOkWith chainServiceStop stopEvents dischargeAll s

def isKnownBlocking (s : Site) : Bool := (keysOf s).any (fun k => knownBlocking.contains k)

/-- sites that are neither released nor recorded — printed when the theorem below would fail -/
def unclassified : List Site := sites.filter (fun s => !(siteOk s || isKnownBlocking s))

def wgAddOk (a : WgAdd) : Bool :=
  a.release == "go-defer" || a.release == "loop-go-defer" || wgReviewed.any (fun r => r.fn == a.fn && r.wg == a.wg)

/-- Diagnostics only (not part of any proof): when a table check below is about to fail, name the offending rows in
the build log, so that the broken obligation reported by bin/check says which site / step / entry it is. -/
def diagnostics : List String :=
  (unclassified.map (fun s => "C17 unclassified blocking site (no default, no quit alternative closed in time, no discharge entry): " ++ describe s)) ++
  (if chainServiceStop == reviewedOrder then [] else
    ["C17 ChainService.Stop order changed: extracted [" ++ ", ".intercalate (chainServiceStop.map nameOf) ++ "] reviewed [" ++ ", ".intercalate (reviewedOrder.map nameOf) ++ "]"]) ++
  ((orderDeps.filter (fun d => !before chainServiceStop d.1 d.2.1)).map (fun d =>
    "C17 order dependency violated: `" ++ nameOf d.1 ++ "` must come before `" ++ nameOf d.2.1 ++ "` (" ++ d.2.2 ++ ")")) ++
  ((dischargeAll.filter (fun d => !sites.any d.covers)).map (fun d =>
    "C17 stale discharge entry (matches no extracted site): " ++ nameOf d.fn ++ ":" ++ nameOf d.chan)) ++
  ((capDischarge.filter (fun d => !d.ok)).map (fun d =>
    "C17 capacity no longer covers the sends at blocking site " ++ nameOf d.fn ++ ":" ++ nameOf d.chan ++
    " — the reviewed reason relies on `" ++ nameOf d.makeChan ++ "` being created in " ++ nameOf d.makeFn ++ " with capacity " ++ d.cap ++
    " and on " ++ toString d.sendSites ++ " send statement(s); extracted: " ++
    (if d.makeRows.isEmpty then "no such make(chan) in that function" else
      ", ".intercalate (d.makeRows.map (fun m => "make(chan, " ++ m.cap ++ ") at " ++ m.file ++ ":" ++ toString m.line))) ++
    (", ".intercalate ((d.sameFieldRows.filter (fun m => m.cap != d.cap && m.fn != d.makeFn)).map (fun m =>
      "; also created in " ++ nameOf m.fn ++ " with capacity " ++ m.cap ++ " (" ++ m.file ++ ":" ++ toString m.line ++ ")"))) ++
    ", " ++ toString (sendCount d.fn d.chan) ++ " send statement(s)")) ++
  ((sites.filter (fun s => onWorker s.fn && !ruleA s && !ruleC dischargeAll s &&
      s.alts.any (fun a => !a.send && (compOfQuit (resolveChan s.fn a.chan)).isSome) && !ruleB chainServiceStop stopEvents s)).map (fun s =>
    "C17 " ++ describe s ++ " runs on a work-manager worker goroutine (per-response callback): its quit alternative is closed only after workManager.Stop has waited for the workers")) ++
  ((wgAdds.filter (fun a => !wgAddOk a)).map (fun a =>
    "C17 unbalanced WaitGroup: " ++ nameOf a.wg ++ ".Add(" ++ a.count ++ ") in " ++ nameOf a.fn ++ " (" ++ a.file ++ ":" ++ toString a.line ++
    ") is released by `" ++ a.release ++ "`, not by a goroutine's deferred Done, and has no reviewed entry")) ++
  ((wgDones.filter (fun d => !wgDoneReviewed.any (fun r => r.1 == d.fn && r.2.1 == d.wg))).map (fun d =>
    "C17 unreviewed explicit " ++ nameOf d.wg ++ ".Done() in " ++ nameOf d.fn ++ " (" ++ d.file ++ ":" ++ toString d.line ++ ")")) ++
  ((comps.filter (fun c => !closeBeforeWait stopEvents c)).map (fun c =>
    "C17 " ++ nameOf c.stopFn ++ " no longer closes " ++ nameOf c.quit ++ " before it waits"))

#eval show IO Unit from do
  unless diagnostics.isEmpty do
    throw <| IO.userError ("\n".intercalate diagnostics)

/-- **Every blocking site is released by Stop**: every send/receive/range/select/Wait of the shutdown-relevant files
has a `default`, or a quit alternative closed in time, or a reviewed discharge reason.  (Full statement; it was false
while `knownBlocking` carried the MarkAsConfirmed and Stop-order findings, both repaired since.) -/
theorem C17_sites : ∀ s ∈ sites, siteOk s = true := by
  have h : sites.all siteOk = true := by decide +kernel
  exact fun s hs => List.all_eq_true.mp h s hs

/-- the form that carries recorded findings: every site is released, or is one of `knownBlocking` (empty today) -/
theorem C17_sites_partial : ∀ s ∈ sites, siteOk s = true ∨ isKnownBlocking s = true :=
  fun s hs => Or.inl (C17_sites s hs)

/-- every `knownBlocking` key names an extracted site that no rule releases (no recorded finding is stale) -/
theorem C17_sites_counterexample :
    knownBlocking.all (fun k => sites.any (fun s => (keysOf s).contains k && !siteOk s)) = true := by
  decide +kernel

/-- the sites of the two rules that need no review: `default`, or a Stop-closed quit alternative -/
theorem C17_rule_counts :
    (sites.filter ruleA).length + (sites.filter (fun s => !ruleA s && ruleB chainServiceStop stopEvents s)).length
      + (sites.filter (fun s => !ruleA s && !ruleB chainServiceStop stopEvents s && ruleC dischargeAll s)).length
      + (sites.filter (fun s => !siteOk s)).length = sites.length :=
  length_filter_first_of_three _ _ _ siteOk (fun _ => rfl) sites

/-- **Stop order**: `ChainService.Stop` performs exactly the reviewed steps in the reviewed order, and
every order fact a discharge reason relies on holds in the extracted order. -/
theorem C17_stop_order :
    chainServiceStop = reviewedOrder ∧
    orderDeps.all (fun d => before chainServiceStop d.1 d.2.1) = true := by
  constructor <;> decide +kernel

/-- every component's Stop method closes its quit channel, and does so before it waits -/
theorem C17_close_before_wait : comps.all (closeBeforeWait stopEvents) = true := by decide +kernel

/-- every component's stop and wait steps occur in `ChainService.Stop` -/
theorem C17_comps_in_order :
    comps.all (fun c => (indexOf? c.stopStep chainServiceStop).isSome && (indexOf? c.waitStep chainServiceStop).isSome) = true := by
  decide +kernel

/-- the Stop methods wake the condition variables their goroutines wait on -/
theorem C17_cond_wakers :
    stopEvents.any (· == (⟨N.«blockManager.Stop», "call", N.«blockManager.newHeadersSignal.Broadcast»⟩ : StopEv)) = true ∧
    stopEvents.any (· == (⟨N.«blockManager.Stop», "call", N.«blockManager.newFilterHeadersSignal.Broadcast»⟩ : StopEv)) = true ∧
    stopEvents.any (· == (⟨N.«UtxoScanner.Stop», "call", N.«UtxoScanner.cv.Signal»⟩ : StopEv)) = true := by
  refine ⟨?_, ?_, ?_⟩ <;> decide +kernel

/-- no stale entries: every discharge entry, every alias and every call-graph entry matches an extracted site -/
theorem C17_discharge_used :
    dischargeAll.all (fun d => sites.any d.covers) = true ∧
    aliases.all (fun a => sites.any (fun s => s.fn == a.1 && s.alts.any (·.chan == a.2.1))) = true ∧
    calledFrom.all (fun e => sites.any (fun s => s.fn == e.1)) = true := by
  refine ⟨?_, ?_, ?_⟩ <;> decide +kernel

/-- **Capacity reasons are checked, not only reviewed**: for every discharge entry of the kind "the channel's capacity
covers every send", the channel's creation in the named function exists in the regenerated `make(chan …)` table with
exactly the capacity the reason relies on, so does every other creation of a channel stored in the same struct
field, and the site's function contains exactly the number of send statements on it that were reviewed.  A capacity
that is capped, a second creation site or an added send breaks this theorem, and the diagnostics name the site. -/
theorem C17_capacity_checked : capDischarge.all (·.ok) = true := by decide +kernel

/-- **Callbacks are judged against the work manager's Wait**: the extractor finds the per-response callbacks handed
to the work manager, and every blocking site in one of them (or in a function one of them calls directly) is
classified with `workManager` among the components that may be waiting for it — whatever struct it is a method of. -/
theorem C17_callbacks_on_workers :
    workerCallbacks.isEmpty = false ∧
    sites.all (fun s => !onWorker s.fn || (waitedBy s.fn s.recv).contains "workManager") = true ∧
    (sites.any (fun s => workerCallbacks.contains s.fn)) = true := by
  refine ⟨by decide +kernel, List.all_eq_true.mpr fun s _ => ?_, by decide +kernel⟩
  cases h : onWorker s.fn
  · rfl
  · exact waitedBy_onWorker s.fn s.recv h

/-- **WaitGroup balance**: every `wg.Add` of the shutdown-relevant files launches goroutine(s) that hand the slot back
with a top-level `defer wg.Done()`, or is a reviewed entry (a slot released by a timer callback, by an explicit `Done`
on some path, or not at all, needs one saying which path returns it on each outcome); every explicit `Done` is
reviewed; a group declared "never waited for" has no Wait site; no entry is stale.  A `Stop` that waits on a group
with an unreturned slot never returns. -/
theorem C17_waitgroup_balanced :
    wgAdds.all wgAddOk = true ∧
    wgDones.all (fun d => wgDoneReviewed.any (fun r => r.1 == d.fn && r.2.1 == d.wg)) = true ∧
    wgReviewed.all (fun r => wgAdds.any (fun a => a.fn == r.fn && a.wg == r.wg && a.release != "go-defer" && a.release != "loop-go-defer") &&
      (!r.unwaited || !sites.any (fun s => s.kind == "wait" && s.alts.any (·.chan == r.wg)))) = true ∧
    wgDoneReviewed.all (fun r => wgDones.any (fun d => d.fn == r.1 && d.wg == r.2.1)) = true := by
  refine ⟨?_, ?_, ?_, ?_⟩ <;> decide +kernel

/-- the quit channels the table recognises are exactly channels some Stop method closes -/
theorem C17_quits_are_closed : comps.all (fun c => stopClosed.contains c.quit) = true := by decide +kernel

/- the hypotheses are not vacuous: a concrete released site of each rule, and one that is not -/
example : ∃ s ∈ sites, ruleA s = true := by decide +kernel
example : ∃ s ∈ sites, ruleA s = false ∧ ruleB chainServiceStop stopEvents s = true := by decide +kernel

end Neutrino.Shutdown
