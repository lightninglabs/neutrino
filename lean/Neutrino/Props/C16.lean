/-
C16 — cache never exceeds capacity and stays one consistent map under
concurrency.
-/
import Neutrino.Lemmas.LruRefine
import Neutrino.Model.LockObj
import Neutrino.Gen.Lru
import Neutrino.Lemmas.LruOracle
import Neutrino.Lemmas.LruArith
namespace Neutrino.Lru

def outs (s : State) : List Op → List Out
  | [] => []
  | o :: os => (step s o).2 :: outs (step s o).1 os

def Spec.outs (sp : Spec) : List Op → List Out
  | [] => []
  | o :: os => (sp.step o).2 :: Spec.outs (sp.step o).1 os

/-- **Every reachable state** (any capacity below 2^64, any operation sequence
including values whose size stops being computable): the byte counter equals the
total size of the resident entries, never exceeds the capacity, index and
recency list hold exactly the same entries, one per key, and the mutex is free
(so the cache is usable after every call, failed or not). -/
theorem C16_state_invariant (cap : Nat) (hcap : cap < two64) (ops : List Op) :
    let s := run { cap := cap } ops
    s.size ≤ cap ∧ s.size = total s.ll ∧ s.locked = false ∧
    (∀ k e, (k, e) ∈ s.idx ↔ (e ∈ s.ll ∧ e.key = k)) ∧
    (s.ll.map (·.key)).Nodup ∧ (s.idx.map (·.1)).Nodup := by
  intro s
  have h : Inv s := inv_run _ ops (inv_init cap hcap)
  have hc : s.cap = cap := run_cap _ _
  exact ⟨hc ▸ h.linv.sizeLe, h.linv.sizeEq, h.unlocked, h.linv.idxIff, h.linv.nodupLL, h.linv.nodupIx⟩

/-- **Refinement**: on every operation sequence the implementation model
(index + list + counter) returns exactly what the plain recency-ordered
association list `Spec` returns, and ends in the same abstract state. -/
theorem C16_refines_spec (cap : Nat) (hcap : cap < two64) (ops : List Op) :
    outs { cap := cap } ops = Spec.outs { cap := cap } ops ∧
    abs (run { cap := cap } ops) = Spec.run { cap := cap } ops := by
  have key : ∀ (s : State), Inv s → outs s ops = Spec.outs (abs s) ops := by
    induction ops with
    | nil => intro s _; rfl
    | cons o os ih =>
      intro s h
      simp only [outs, Spec.outs]
      rw [spec_step_abs s o h, ih _ (inv_step s o h)]
  exact ⟨key _ (inv_init cap hcap), refines_run _ ops (inv_init cap hcap)⟩

/-- **Least-recently-used first**: a successful `put` keeps a most-recent
suffix of the other entries (it drops only an oldest prefix) and makes the new
entry the most recent one. -/
theorem C16_lru_order (sp : Spec) (k vid sz : Nat) (ev : Bool)
    (h : (sp.step (.put k vid sz)).2 = .okPut ev) :
    ∃ n, (sp.step (.put k vid sz)).1.items =
      ((match sp.find k with | some el => sp.items.erase el | none => sp.items).drop n) ++ [⟨k, vid, sz⟩] := by
  generalize hop : Op.put k vid sz = op at h ⊢
  revert h
  fun_cases Spec.step sp op
  all_goals cases hop
  -- a refused put does not answer `okPut`
  any_goals (intro h; cases h; done)
  -- resident key, new key
  all_goals
    intro _
    obtain ⟨n, hn⟩ := Spec.evict_is_drop sp.cap sp.bad sz _ false
    rw [‹Spec.evict _ _ _ _ _ = _›] at hn
    rw [‹sp.find k = _›]
    exact ⟨n, congrArg (· ++ _) hn⟩

/-- **Lookup returns the value most recently stored**: right after a
successful `put k v`, `get k` returns `v` (in every reachable state). -/
theorem C16_get_after_put (s : State) (h : Inv s) (k vid sz : Nat) (ev : Bool)
    (hp : (step s (.put k vid sz)).2 = .okPut ev) :
    (step (step s (.put k vid sz)).1 (.get k)).2 = .val vid := by
  have h' := inv_step s (.put k vid sz) h
  have hr := refines s (.put k vid sz) h
  have hg := refines _ (.get k) h'
  rw [hg.1, hr.2]
  rw [hr.1] at hp
  obtain ⟨n, hn⟩ := C16_lru_order (abs s) k vid sz ev hp
  have hnd : (((abs s).step (.put k vid sz)).1.items.map (·.key)).Nodup := by
    rw [← hr.2]; exact h'.linv.nodupLL
  have hmem : (⟨k, vid, sz⟩ : Entry) ∈ ((abs s).step (.put k vid sz)).1.items := by
    rw [hn]; simp
  have hfind := find_key_of_mem hnd hmem
  generalize ((abs s).step (.put k vid sz)).1 = sp' at hfind
  simp only [Spec.step, Spec.find]
  simp only at hfind
  rw [hfind]

/-- **A deleted entry is gone**: after a successful delete of `k`, `get k`
finds nothing. -/
theorem C16_get_after_del (s : State) (h : Inv s) (k v : Nat)
    (hd : (step s (.del k)).2 = .val v) :
    (step (step s (.del k)).1 (.get k)).2 = .notFound := by
  have h' := inv_step s (.del k) h
  have hr := refines s (.del k) h
  have hg := refines _ (.get k) h'
  rw [hg.1, hr.2]
  rw [hr.1] at hd
  have hnd : ((abs s).items.map (·.key)).Nodup := h.linv.nodupLL
  generalize abs s = sp at hd hnd
  simp only [Spec.step] at hd
  cases hf : sp.find k with
  | none => simp [hf] at hd
  | some el =>
    simp only [hf] at hd
    by_cases hb : el.vid ∈ sp.bad
    · simp [hb] at hd
    · obtain ⟨hmem, rfl⟩ := find_mem_key hf
      have hnone : (sp.items.erase el).find? (·.key == el.key) = none := by
        rw [erase_eq_filter hnd hmem]
        exact List.find?_eq_none.2 fun e he => by simpa using (List.mem_filter.1 he).2
      simp only [Spec.step, Spec.find, show List.find? _ sp.items = some el from hf, hb, ↓reduceIte, hnone]

/-- **The driver's step oracle is sound.**  The clauses the driver evaluates on
the implementation's own observations around every sequential operation
(`obsClause`: a lookup returns the value most recently stored and only refreshes
it; a stored entry becomes the most recent one and only the key's old entry and
a tail of least-recently-used entries go; a delete removes exactly its key; a
failing operation changes nothing) accept every step of the abstract cache from
every reachable state — so, by `C16_refines_spec`, an `ORACLE-FAIL` with one of
their shapes is behaviour the proved cache cannot show. -/
theorem C16_oracle_sound (cap : Nat) (hcap : cap < two64) (ops : List Op) (op : Op) :
    let sp := Spec.run { cap := cap } ops
    obsClause sp.bad op (sp.step op).2 (dumpOfSpec sp) (dumpOfSpec (sp.step op).1) = none := by
  intro sp
  -- `sp` is the abstraction of a reachable state, whose list holds one entry per key
  have hnd : ((abs (run { cap := cap } ops)).items.map (·.key)).Nodup :=
    (inv_run _ ops (inv_init cap hcap)).linv.nodupLL
  rw [refines_run _ ops (inv_init cap hcap)] at hnd
  exact obsClause_sound sp op hnd

/-- the clauses are not vacuous: they reject an entry lost by a failing `Put`, an
eviction that skips the least recently used entry, and a lookup that misses a
resident key -/
example : obsClause [] (.put 4 9 11) .err
    ⟨6, 2, [⟨4, 3, 2⟩, ⟨1, 2, 4⟩], [1, 4], true⟩ ⟨4, 1, [⟨1, 2, 4⟩], [1], true⟩ = some "failed-put-changed-cache" := rfl
example : obsClause [] (.put 7 9 3) (.okPut true)
    ⟨6, 2, [⟨4, 3, 2⟩, ⟨1, 2, 4⟩], [1, 4], true⟩ ⟨7, 2, [⟨7, 9, 3⟩, ⟨1, 2, 4⟩], [1, 7], true⟩ = some "evicted-not-lru" := rfl
example : obsClause [] (.get 1) .notFound
    ⟨6, 2, [⟨4, 3, 2⟩, ⟨1, 2, 4⟩], [1, 4], true⟩ ⟨6, 2, [⟨4, 3, 2⟩, ⟨1, 2, 4⟩], [1, 4], true⟩ = some "lookup-lost" := rfl

/-- `dumpShape` names a violated clause exactly when `dumpOk` fails (the report's `shape=`
is never "ok" on a failure and never anything else on a pass) -/
theorem C16_dump_shape (cap : Nat) (d : Dump) : dumpOk cap d = true ↔ dumpShape cap d = "ok" := by
  unfold dumpShape dumpOk
  constructor
  · intro h
    simp only [Bool.and_eq_true, decide_eq_true_eq, beq_iff_eq] at h
    obtain ⟨⟨⟨⟨⟨h1, h2⟩, h3⟩, h4⟩, h5⟩, h6⟩ := h
    rw [if_neg (h2 ▸ Nat.not_lt.2 h1), if_neg (by simp [h2]), if_neg (by simp [h3]), if_neg (by simp [h4]),
      if_neg (by simp [h5]), if_neg (by simp [h6])]
  · intro h
    -- each violated clause names itself, and no name is "ok"
    obtain ⟨c1, h⟩ := of_ite_eq (by simp) h
    obtain ⟨c2, h⟩ := of_ite_eq (by simp) h
    obtain ⟨c3, h⟩ := of_ite_eq (by simp) h
    obtain ⟨c4, h⟩ := of_ite_eq (by simp) h
    obtain ⟨c5, h⟩ := of_ite_eq (by simp) h
    obtain ⟨c6, _⟩ := of_ite_eq (by simp) h
    simp only [bne_iff_ne, ne_eq, Decidable.not_not, Bool.not_eq_true', Bool.not_eq_false] at c2 c3 c4 c5 c6
    simp only [c2, Nat.le_of_not_lt c1, c3, c4, c5, c6, decide_true, beq_self_eq_true, Bool.and_self]

/-- the state the round-g seed reached (two entries of 2^63-1 and 2^63+5 resident in a cache of
capacity 2^63+1, `Size()` = 4) is rejected, and named -/
example : dumpOk 9223372036854775809 ⟨4, 2, [⟨1, 10, 9223372036854775807⟩, ⟨0, 9, 9223372036854775813⟩], [0, 1], true⟩ = false ∧
    dumpShape 9223372036854775809 ⟨4, 2, [⟨1, 10, 9223372036854775807⟩, ⟨0, 9, 9223372036854775813⟩], [0, 1], true⟩
      = "resident-total-exceeds-capacity" := ⟨rfl, rfl⟩

/-- **No overflow.**  For every capacity below 2^64 and every operation sequence from
the empty cache — entries of ANY size, sizes at and beyond the capacity and at the top
of the `uint64` range included — every `uint64` operation the Go code performs in
`Put`, `evict` and `LoadAndDelete` (`runArith`: each evaluation of the loop condition's
`c.capacity - c.size`, each `c.size -= es`, `c.size += vs`, and the error path's
`needed - (c.capacity - c.size)`, with the operands they have at that moment) has
operands and exact result in `[0, 2^64)`: the machine word never wraps, so the model's
exact `Nat` arithmetic IS the code's arithmetic.  (No hypothesis on the entry sizes is
needed: a size above the capacity is refused by a comparison before any arithmetic.) -/
theorem C16_no_overflow (cap : Nat) (hcap : cap < two64) (ops : List Op) :
    ∀ x ∈ runArith { cap := cap } ops, x.exact = true :=
  runArith_exact _ (inv_init cap hcap) ops

/-- the list is not empty or trivial: near the top of the range it contains operands above
2^63, sums that reach the capacity 2^64-1 exactly, and the arithmetic of an eviction -/
example : runArith { cap := 18446744073709551615 }
      [.put 1 1 9223372036854775808, .put 2 2 9223372036854775807, .put 3 3 9223372036854775808, .del 2] =
    [.sub 18446744073709551615 0, .add 0 9223372036854775808,
     .sub 18446744073709551615 9223372036854775808, .add 9223372036854775808 9223372036854775807,
     .sub 18446744073709551615 18446744073709551615, .sub 18446744073709551615 9223372036854775808,
     .sub 18446744073709551615 9223372036854775807, .add 9223372036854775807 9223372036854775808,
     .sub 18446744073709551615 9223372036854775807] := rfl

/-- **The eviction loop's condition, with the machine word's wrap-around.**  The
condition found in the source on this run (`Gen.Lru.evictCond`, translated from the
`for` statement of `evict` as an expression over `uint64`, `+`/`-` wrapping at 2^64)
holds exactly when the free space `capacity - size` is smaller than what is needed — the
condition of the model's `evictLoop` — for ALL word values the invariant allows
(`size ≤ capacity < 2^64`, `needed ≤ capacity`: the state invariant and `evict`'s
up-front check). -/
theorem C16_evict_condition (cap size needed : Nat) (hcap : cap < two64)
    (hs : size ≤ cap) (hn : needed ≤ cap) :
    Gen.Lru.evictCond.holds cap size needed ↔ sub64 cap size < needed := by
  unfold Gen.Lru.evictCond
  -- `Gen.Lru.evictCond` is regenerated from the source: no step below depends on which
  -- equivalent form it has
  simp only [CmpExpr.holds, U64Expr.eval, gt_iff_lt, ge_iff_le]
  simp only [wadd, wsub, sub64, two64] at *
  repeat' split
  all_goals omega

/-- the "more readable" `size + needed > capacity` is NOT that condition: above 2^63 the
sum wraps and the loop does not evict although the entry does not fit (here: free space
2^63-1, needed 2^63, wrapped sum 0); the sum is an operation `C16_no_overflow` could not
have covered -/
theorem C16_evict_condition_counterexample :
    ¬ (CmpExpr.gt (.add .size .needed) .cap).holds 18446744073709551615 9223372036854775808 9223372036854775808 ∧
    sub64 18446744073709551615 9223372036854775808 < 9223372036854775808 ∧
    (Arith.add 9223372036854775808 9223372036854775808).exact = false := by decide

/-- the hypotheses of `C16_evict_condition` are met, with the condition true, at the top of the range -/
example : ∃ cap size needed, cap < two64 ∧ size ≤ cap ∧ needed ≤ cap ∧ 0 < size ∧
    Gen.Lru.evictCond.holds cap size needed :=
  ⟨18446744073709551615, 9223372036854775808, 9223372036854775808, by decide, by decide, by decide, by decide, by decide⟩

/-- The facts regenerated from cache/lru/lru.go on this run: every access to
the index, the list and the counter in Put/Get/LoadAndDelete/Len/Size lies
inside the mutex's critical section, which is released by `defer`; eviction is
only called from Put (inside its critical section) and takes its victim from
the back of the list while Put inserts at the front and Get moves to the front;
`Range` either holds the mutex or reads nothing but the index (a `sync.Map`). -/
theorem C16_source_shape :
    Gen.Lru.putAllInside = true ∧ Gen.Lru.getAllInside = true ∧
    Gen.Lru.loadAndDeleteAllInside = true ∧ Gen.Lru.lenAllInside = true ∧
    Gen.Lru.sizeAllInside = true ∧ Gen.Lru.evictCallers = ["Put"] ∧
    Gen.Lru.evictVictim = "Back" ∧ Gen.Lru.putInsert = "PushFront" ∧
    Gen.Lru.getTouch = "MoveToFront" ∧ Gen.Lru.rangeSafe = true :=
  ⟨rfl, rfl, rfl, rfl, rfl, rfl, rfl, rfl, rfl, rfl⟩

/-- The cache as a mutex-protected object whose critical section is the single
micro-step `step`. -/
def lruObj : LockObj.Obj State Op Out :=
  { Loc := Op, start := id, micro := fun s op => ((step s op).1, .inr (step s op).2) }

/-- **Every interleaving, any number of threads and calls**: whenever no call
is inside its critical section the cache is in the state, and every completed
call has returned the result, of running the completed calls one at a time in
the order in which they took the mutex.  Together with `C16_state_invariant`
and `C16_refines_spec` this gives linearizability to the `Spec` list.
(`LockObj.lock_serializes` holds for every micro-step decomposition; `lruObj`
is the coarsest one.  That all shared accesses are inside the
critical section is `C16_source_shape`.) -/
theorem C16_linearizable (cap : Nat) (evs : List (LockObj.Ev Op)) :
    let c := LockObj.crun lruObj { shared := { cap := cap }, holder := none, log := [] } evs
    c.holder = none → LockObj.Replay lruObj { cap := cap } c.log c.shared :=
  LockObj.lock_serializes lruObj _ evs

/-- Replaying a log atomically is `run` on its operations, with `step`'s outputs. -/
theorem C16_replay_is_run (s0 s : State) (log : List (Nat × Op × Out))
    (h : LockObj.Replay lruObj s0 log s) :
    s = run s0 (log.map (·.2.1)) ∧ log.map (·.2.2) = outs s0 (log.map (·.2.1)) := by
  induction h with
  | nil => exact ⟨rfl, rfl⟩
  | @snoc log s s' t i r hr hex ih =>
    have hm : step s i = (s', r) := hex.atomic (f := fun s op => step s op) fun _ _ => rfl
    have run_append : ∀ (s : State) (a b : List Op), run s (a ++ b) = run (run s a) b := by
      intro s a b; induction a generalizing s with
      | nil => rfl
      | cons x xs ih => exact ih _
    have outs_append : ∀ (s : State) (a b : List Op), outs s (a ++ b) = outs s a ++ outs (run s a) b := by
      intro s a b; induction a generalizing s with
      | nil => rfl
      | cons x xs ih => exact congrArg (_ :: ·) (ih _)
    rw [List.map_append, List.map_append, run_append, outs_append, ← ih.1, ← ih.2]
    exact ⟨congrArg Prod.fst hm.symm, congrArg (log.map (·.2.2) ++ [·]) (congrArg Prod.snd hm.symm)⟩

/-! Non-vacuity: the hypotheses are met by concrete non-trivial states. -/
example : Inv (run { cap := 5 } [.put 1 1 3, .put 2 2 2, .get 1, .put 3 3 4]) :=
  inv_run _ _ (inv_init 5 (by decide))
example : (run { cap := 5 } [.put 1 1 3, .put 2 2 2, .get 1, .put 3 3 4]).ll = [⟨3, 3, 4⟩] := rfl
example : (step (run { cap := 5 } [.put 1 1 3]) (.put 2 2 2)).2 = .okPut false := rfl

end Neutrino.Lru
