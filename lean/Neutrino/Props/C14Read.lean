/-
C14 — a header import whose SOURCE starts failing while the importer writes
(a file that has become shorter than its mapping, a failing disk: every read
from some file index on returns an error that may well wrap `io.EOF`).
"Success ⇒ the stores hold the file up to its declared end" must survive it:
a read failure is never the end of the data.
-/
import Neutrino.Props.C14
import Neutrino.Lemmas.ImportRead
namespace Neutrino.Import

theorem processRegionsRF_none (F : File) (cfg : Cfg) (b f : Nat) (r : Run) :
    processRegionsRF F cfg none b f r = processRegions F cfg b f r := by
  have h : ∀ s e m r, appendNewRF F cfg none s e m r = appendNew F cfg s e m r :=
    fun s e m r => appendLoopRF_none F cfg _ _ _ _ _
  unfold processRegionsRF processRegions
  simp only [h]

/-- without a fault the extended run is the run the other C14 theorems speak of -/
theorem C14_read_fault_none (F : File) (cfg : Cfg) (st : Stores) :
    importRunRF F cfg none st = importRun F cfg st := by
  unfold importRunRF importRun
  simp only [processRegionsRF_none]

/-- **Truncated source, one write loop**: over a source that fails from any file
index on, armed at any moment, for either file, the write loop does exactly what
it does over the whole file (the failure was never met) or it ends with a read
error — it never takes the failure for the end of the data. -/
theorem C14_truncated_source_reported (F : File) (cfg : Cfg) (rf : ReadFault) (srcEnd : Nat) (mode : Mode)
    (fuel batchStart : Nat) (r : Run) :
    appendLoopRF F cfg (some rf) srcEnd mode fuel batchStart r = appendLoop F cfg srcEnd mode fuel batchStart r ∨
    (appendLoopRF F cfg (some rf) srcEnd mode fuel batchStart r).1 = some .read :=
  appendLoopRF_cases F cfg (some rf) srcEnd mode fuel batchStart r

/-- **Truncated source, whole import**: an import that reports success although
its source was failing is, step for step, the import of the whole file — the
failure was never met, so every success theorem applies to it unchanged. -/
theorem C14_read_fault_success (F : File) (cfg : Cfg) (rf : ReadFault) (st : Stores)
    (hok : (importRunRF F cfg (some rf) st).1 = none) :
    importRunRF F cfg (some rf) st = importRun F cfg st :=
  (importRunRF_cases F cfg (some rf) st).resolve_right fun h => nomatch hok.symm.trans h

/-- the success clause of the run-time oracle under a failing source (level
stores, outside the recorded shape F7) -/
theorem C14_success_read_fault_partial (F : File) (cfg : Cfg) (rf : ReadFault) (st : Stores)
    (hh : Healthy st) (heq : EqualHeights st) (hbs : cfg.bs ≥ 1) (hshape : f7Shape (obsOf st) F = false)
    (hok : (importRunRF F cfg (some rf) st).1 = none) :
    successOk (obsOf st) F (obsOf (importRunRF F cfg (some rf) st).2.st) = true := by
  have e := C14_read_fault_success F cfg rf st hok
  have hok' : (importStores F cfg st).1 = none := by simp only [importStores]; rw [← e]; exact hok
  have := C14_success_all_partial F cfg st hh heq hbs hshape hok'
  simpa only [importStores, e] using this

/-- what the theorems above rely on in chainimport/headers_import.go
(regenerated on every run): the write loop and `processBatch` recognise the end
of the data by the identity of the sentinel `io.EOF`, which only `ReadBatch`'s
"range exhausted" produces; a read error of the source arrives wrapped and is
not equal to it. -/
theorem C14_read_source_shape : Gen.Import.writeLoopEofBySentinelIdentity = true := by decide


/-- a file of genesis + 6 headers for stores holding genesis only, batches of 2 -/
def rfFile : File :=
  { bstart := 0, fstart := 0,
    blocks := [⟨0, 0, true⟩, ⟨1, 0, true⟩, ⟨2, 1, true⟩, ⟨3, 2, true⟩, ⟨4, 3, true⟩, ⟨5, 4, true⟩, ⟨6, 5, true⟩],
    filters := [0, 1, 2, 3, 4, 5, 6] }
def rfStores : Stores := { blocks := [⟨0, 0, true⟩], btip := 0, filters := [0], ftip := some 0 }

/-- the block file becomes unreadable from index 4 on at the second iteration of
the write loop: the import fails with a read error after the batch before it -/
example : (importRunRF rfFile { bs := 2 } (some ⟨true, 2 * 4 + 1, 4⟩) rfStores).1 = some .read := by decide +kernel
example : (importRunRF rfFile { bs := 2 } (some ⟨true, 2 * 4 + 1, 4⟩) rfStores).2.st.blocks.length = 3 := by decide +kernel
/-- a failure that is never met (index beyond the file) changes nothing -/
example : (importRunRF rfFile { bs := 2 } (some ⟨false, 2 * 4, 7⟩) rfStores).1 = none := by decide +kernel
example : (importRunRF rfFile { bs := 2 } (some ⟨false, 2 * 4, 7⟩) rfStores).2.st.filters = [0, 1, 2, 3, 4, 5, 6] := by decide +kernel

/-- **Why identity**: a write loop that takes every read error for the end of
the data (`errors.Is(err, io.EOF)` on a wrapped short read) reports SUCCESS with
the stores short of the file — the success clause is false of it. -/
theorem C14_lax_eof_counterexample :
    let r := appendLoopLax rfFile { bs := 2 } (some ⟨true, 2 * 4 + 1, 4⟩) 6 .both 8 1 { st := rfStores, np := 8 }
    r.1 = none ∧ r.2.st.blocks.length = 3 ∧ successOk (obsOf rfStores) rfFile (obsOf r.2.st) = false := by decide +kernel

end Neutrino.Import
