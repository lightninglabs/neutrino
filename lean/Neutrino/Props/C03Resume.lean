/-
Property C03, the region "RESUMED cfheaders sync on a network with hard-coded
filter-header checkpoints": the start state of `cfHandler` is a parameter (any
filter tip F at or below any block tip B, any stores), the peers' checkpoint
lists are arbitrary.

* the checkpointed phase (the only place where served values meet the
  hard-coded checkpoints) is entered whenever a checkpoint-interval boundary -
  hence whenever a hard-coded height - lies in (F, B];
* its first step validates EVERY index, from 0, of EVERY peer's list: each peer
  whose (capped) list contradicts a hard-coded checkpoint at any index, also one
  at or below F, is banned, and a list handed back agrees with every hard-coded
  checkpoint;
* nothing is committed by that step.

The two variants that were tried against the code ("enter the phase only if the
filter tip lags a whole interval", "scan from index F/interval") are refuted by
closed counterexamples.
-/
import Neutrino.Props.C03
namespace Neutrino.CFHeaders

/-- what the theorems below rely on in the source (regenerated on every run): `cfHandler` enters the
checkpointed phase on the block tip alone (`checkpointedPhase`), fetches unconditionally after it, and
`resolveConflict` ranges over every peer's whole list when it calls `chainsync.ValidateCFHeader`
(`contradictsHard` = the scan from index 0) -/
theorem C03_resume_source_facts :
    Gen.CFHeaders.checkpointedPhaseCond = "len(goodCheckpoints)==0&&lastHeight>=wire.CFCheckptInterval" ∧
    Gen.CFHeaders.checkpointedFetchUnconditional = true ∧
    Gen.CFHeaders.hardScanWholeLists = true := ⟨rfl, rfl, rfl⟩

/-- a checkpoint-interval boundary in (F, B] puts the block tip at or above the first interval -/
theorem C03_checkpointed_phase_resume (interval F B k : Nat) (hF : F < k * interval) (hB : k * interval ≤ B) :
    checkpointedPhase interval B = true := by
  unfold checkpointedPhase
  have hk : 0 < k := Nat.pos_of_mul_pos_right (Nat.zero_lt_of_lt hF)
  exact decide_eq_true (Nat.le_trans (Nat.le_mul_of_pos_left interval hk) hB)

/-- in particular: for every hard-coded height H (a multiple of the interval) with F < H ≤ B -/
theorem C03_hardcoded_height_in_reach_runs_phase (interval F B i : Nat)
    (hF : F < (i + 1) * interval) (hB : (i + 1) * interval ≤ B) :
    checkpointedPhase interval B = true :=
  C03_checkpointed_phase_resume interval F B (i + 1) hF hB

/-- the "restart optimisation" skips the phase although a boundary lies between the tips
(seeded C03h-2: F = 1990, H = 2000, B = 2010) -/
theorem C03_checkpointed_phase_lag_counterexample :
    1990 < 2 * 1000 ∧ 2 * 1000 ≤ 2010 ∧ checkpointedPhaseLag 1000 1990 2010 = false ∧
    checkpointedPhase 1000 2010 = true := by decide +kernel

/-- the scan of the hard-coded pass covers every index: starting at 0 is the whole test -/
theorem C03_hard_scan_from_zero (interval : Nat) (hard : Nat → Option Hdr) (cps : List Hdr) :
    contradictsHardFrom 0 interval hard cps = contradictsHard interval hard cps := by
  unfold contradictsHardFrom contradictsHard
  simp only [Nat.zero_le, decide_true, Bool.true_and]

/-- a scan that starts at the store tip's index misses a forgery at an old hard-coded index
(seeded C13h-2: store tip 1000, hard-coded checkpoint 5 at height 1000, served 6) -/
theorem C03_hard_scan_from_tip_counterexample :
    contradictsHard 1000 (fun h => if h = 1000 then some 5 else none) [6, 9] = true ∧
    contradictsHardFrom (1000 / 1000) 1000 (fun h => if h = 1000 then some 5 else none) [6, 9] = false := by
  decide +kernel

/-- RESUMED sync, every start state, every family of lists: if a checkpoint-interval boundary
lies in (F, B] the checkpointed phase runs; every peer whose capped list contradicts a
hard-coded checkpoint at ANY index (from 0, also at or below the filter tip) is banned by its
first pass; a list handed back equals every hard-coded checkpoint at its index; and the store is
untouched by this step -/
theorem C03_checkpoints_resume (interval : Nat) (hard : Nat → Option Hdr) (s : St) (net : Net)
    (cp : List (Peer × List Hdr)) (k : Nat)
    (hF : s.fstore.length - 1 < k * interval) (hB : k * interval ≤ s.blocks.length - 1) :
    (cfStart interval hard s net cp).2 ≠ none ∧
    (∀ pc ∈ capLists interval (s.blocks.length - 1) cp, contradictsHard interval hard pc.2 = true →
      (pc.1, reasonCheckpoint) ∈
        (hardPass interval hard s (capLists interval (s.blocks.length - 1) cp)).1.bans) ∧
    (∀ good, (cfStart interval hard s net cp).2 = some (.ok good) →
      ∀ i c x, hard ((i + 1) * interval) = some c → good[i]? = some x → x = c) ∧
    (cfStart interval hard s net cp).1.fstore = s.fstore := by
  have hcf : cfStart interval hard s net cp =
      ((resolveConflict interval hard s net (capLists interval (s.blocks.length - 1) cp)).1,
       some (resolveConflict interval hard s net (capLists interval (s.blocks.length - 1) cp)).2) := by
    unfold cfStart
    rw [if_pos (C03_checkpointed_phase_resume interval _ _ k hF hB)]
  rw [hcf]
  exact ⟨nofun, (C03_checkpoints interval hard s _).2,
    fun good hg => C03_checkpoints_resolve interval hard s net _ good (Option.some.inj hg),
    (resolveConflict_spec interval hard s net _).1.1⟩

/-- the hypotheses are satisfiable: filter tip 1, block tip 3, interval 2, a hard-coded
checkpoint at height 2 that the only peer contradicts - it is banned, nothing is handed back -/
example :
    let s : St := { blocks := [0, 1, 2, 3], fstore := [1, 11], fblk := [0, 1] }
    let net : Net := { peers := [1], resps := fun _ => [], served := fun _ _ => none,
                       verify := fun _ _ => .bad, getBlock := fun _ => true, pick := 0 }
    s.fstore.length - 1 < 1 * 2 ∧ 1 * 2 ≤ s.blocks.length - 1 ∧
    (cfStart 2 (fun h => if h = 2 then some 5 else none) s net [(1, [6])]).1.bans = [(1, reasonCheckpoint)] := by
  decide +kernel

end Neutrino.CFHeaders
