/-
Property C03: committed filter headers track the header chain and resist false
filter headers.  Only the property theorems live here; the lemmas are in
`Lemmas/CFHeaders.lean`, the model in `Model/CFHeaders.lean`, the predicates
shared with the driver in `Spec/CFHeaders.lean`.

Every theorem is for an arbitrary hash function `H`, an arbitrary start state
satisfying the invariant (genesis does), an arbitrary operation sequence
(chain extensions, rollbacks to any height, direct `writeCFHeadersMsg` calls
with any message, at-tip rounds against ANY network: any number of peers, any
answers, any served filters, any verification table, any map order / pick).
-/
import Neutrino.Lemmas.CFHeaders
import Neutrino.Lemmas.CFHonest
import Neutrino.Gen.CFHeaders
namespace Neutrino.CFHeaders

/-- genesis: one block, its filter header -/
def genesis : St := {}

theorem genesis_inv (H : FHash → Hdr → Hdr) : Inv H genesis :=
  ⟨rfl, List.prefix_refl _, by decide, True.intro⟩

/-- what the proofs rely on in the source, re-extracted from /repo on every run:
the filter store is rolled back before the block store; `writeCFHeadersMsg`
compares `PrevFilterHeader` with the tip before it writes and notifies after;
`detectBadPeers` returns after its first phase (finding F12 — a repair changes
this fact and forces the model and `C03_honest_wins_*` to be revisited); the
majority threshold is `(len(filtersFromPeers)+2)/2`. -/
theorem C03_source_facts :
    Gen.CFHeaders.rollbackFilterFirst = true ∧
    Gen.CFHeaders.writePrevCheckBeforeWrite = true ∧
    Gen.CFHeaders.writeNotifyAfterWrite = true ∧
    Gen.CFHeaders.detectEarlyReturn = true ∧
    Gen.CFHeaders.thresholdExpr = "(len(filtersFromPeers)+2)/2" ∧
    Gen.CFHeaders.thresholdComparisons = true ∧
    Gen.CFHeaders.verifyCalledInResolve = true ∧
    Gen.CFHeaders.writeResolvesBlocksByStopHash = true ∧
    Gen.CFHeaders.resolveSanityOnWholeLists = true ∧
    Gen.CFHeaders.responseLengthTest = "len(m.FilterHashes)==numHeaders" :=
  ⟨rfl, rfl, rfl, rfl, rfl, rfl, rfl, rfl, rfl, rfl⟩

/-- (a) the filter-header chain never runs ahead of the block-header chain -/
theorem C03_not_ahead (H : FHash → Hdr → Hdr) (s0 : St) (h0 : Inv H s0) (ops : List Op) :
    (run H Gen.CFHeaders.rollbackFilterFirst s0 ops).fstore.length ≤
    (run H Gen.CFHeaders.rollbackFilterFirst s0 ops).blocks.length := by
  have hi : Inv H (run H Gen.CFHeaders.rollbackFilterFirst s0 ops) := inv_run h0 ops
  exact hi.len ▸ hi.pre.length_le

example : (run (fun f p => 100 * p + f) true genesis
    [.ext [1, 2], .wr 1 1 [7], .rb 0, .ext [3]]).fstore.length ≤ 2 := by decide +kernel

/-- (b) every entry belongs to the block at its height on the current chain:
the blocks the entries were written for (what the connect notifications carried)
are exactly the current chain up to the filter tip — in every reachable state.
Relies on the rollback order (filter store first). -/
theorem C03_belongs (H : FHash → Hdr → Hdr) (s0 : St) (h0 : Inv H s0) (ops : List Op) :
    let s := run H Gen.CFHeaders.rollbackFilterFirst s0 ops
    s.fblk.length = s.fstore.length ∧ s.fblk <+: s.blocks := by
  have hi : Inv H (run H Gen.CFHeaders.rollbackFilterFirst s0 ops) := inv_run h0 ops
  exact ⟨hi.len, hi.pre⟩

/-- (b) none survives the disconnection of its block: after `rollBackToHeight h`
the call has succeeded, at most `h+1` filter headers are left, and the
invariant still holds -/
theorem C03_belongs_rollback (H : FHash → Hdr → Hdr) (s : St) (hi : Inv H s) (h : Nat) :
    (rollBackToHeight Gen.CFHeaders.rollbackFilterFirst s h).2 = true ∧
    (rollBackToHeight Gen.CFHeaders.rollbackFilterFirst s h).1.fstore.length ≤ h + 1 ∧
    Inv H (rollBackToHeight Gen.CFHeaders.rollbackFilterFirst s h).1 := by
  obtain ⟨s', hr, h1, h2, h3⟩ := rollBackToHeight_take hi h
  rw [show Gen.CFHeaders.rollbackFilterFirst = true from rfl, hr]
  exact ⟨rfl, by rw [h2, List.length_take]; exact Nat.min_le_left _ _, inv_take hi h1 h2 h3⟩

/-- the rollback order is load-bearing: with the block header removed first the
filter store is left ahead of the block store (the filter-store rollback cannot
resolve its tip any more) -/
theorem C03_belongs_needs_filter_first :
    ∃ (s : St) (h : Nat), Inv (fun f p => 100 * p + f) s ∧
      ¬ ((rollBackToHeight false s h).1.fstore.length ≤ (rollBackToHeight false s h).1.blocks.length) :=
  ⟨{ blocks := [0, 1], fstore := [1, 102], fblk := [0, 1] }, 0,
   ⟨rfl, List.prefix_refl _, by decide, ⟨⟨2, by decide⟩, True.intro⟩⟩, by decide⟩

/-- (b) the store is a hash chain in every reachable state -/
theorem C03_hash_chain (H : FHash → Hdr → Hdr) (s0 : St) (h0 : Inv H s0) (ops : List Op) :
    IsChain H (run H true s0 ops).fstore :=
  (inv_run h0 ops).chain

/-- (b) entries are appended only as hash-chain successors of the current tip:
one operation — including a whole checkpointed fetch with any arrival order,
duplicates and the first-interval re-basing, and `resolveConflict` — either
leaves a prefix of the store (rollback), or grows it by appending, one after
the other, batches `H f₁ tip, H f₂ (H f₁ tip), …` each started at the
then-current tip (`Grows`) -/
theorem C03_hash_chain_step (H : FHash → Hdr → Hdr) (ff : Bool) (s : St) (hi : Inv H s) (op : Op) :
    ∃ m, m <+: s.fstore ∧ Grows H m (step H ff s op).1.fstore := by
  cases op with
  | ext ids => exact ⟨s.fstore, List.prefix_refl _, Grows.refl _⟩
  | rb h => exact ⟨_, rollbackLoop_fstore_prefix ff h _ s, Grows.refl _⟩
  | wr prev stop hashes => exact ⟨s.fstore, List.prefix_refl _, grows_writeMsg H s prev stop hashes⟩
  | tip net =>
    refine ⟨s.fstore, List.prefix_refl _, ?_⟩
    show Grows H s.fstore (tipRound H s net).1.fstore
    obtain ⟨bans, e | ⟨pm, -, stopB, e⟩⟩ := tipRound_cases H s net <;> rw [e]
    · exact Grows.refl _
    · exact grows_writeMsg H (ban s bans reasonHeader) _ _ _
  | tipMid net h ids =>
    show ∃ m, m <+: s.fstore ∧ Grows H m (tipRoundMid H ff s net h ids).1.fstore
    rcases tipRoundMid_cases H ff s net h ids with e | ⟨bans, e | ⟨pm, -, stopB, -, e⟩⟩ <;> rw [e]
    · exact ⟨s.fstore, List.prefix_refl _, Grows.refl _⟩
    · exact ⟨_, applyMid_fstore_prefix ff s h ids, Grows.refl _⟩
    · exact ⟨_, applyMid_fstore_prefix ff s h ids,
        grows_writeMsg H (ban (applyMid ff s h ids) bans reasonHeader) _ _ _⟩
  | resolve interval hard net cp =>
    refine ⟨s.fstore, List.prefix_refl _, ?_⟩
    show Grows H s.fstore (resolveConflict interval hard s net cp).1.fstore
    rw [(resolveConflict_spec interval hard s net cp).1.1]
    exact Grows.refl _
  | cp interval cps evs => exact ⟨s.fstore, List.prefix_refl _, (cpRound_ok hi interval cps evs).2⟩

/-- only responses of exactly the requested length for the requested stop hash
are ever compared or written: everything the response filter of
`getCFHeadersForAllPeers` keeps has the requested stop hash and exactly
`batchLen s` filter hashes (too short, too LONG and wrong-stop-hash answers are
dropped, whoever sends them), and whatever an at-tip round appends to the
filter store is the hash chain of one such response, started at the tip — so the
store grows by exactly the number of headers asked for, or not at all -/
theorem C03_response_exact (H : FHash → Hdr → Hdr) (s : St) (net : Net) :
    (∀ pm ∈ gather s net (batchLen s), pm.2.stopOk = true ∧ pm.2.hashes.length = batchLen s) ∧
    ((tipRound H s net).1.fstore = s.fstore ∨
     ∃ pm ∈ gather s net (batchLen s), s.fstore.getLast? = some pm.2.prev ∧
       (tipRound H s net).1.fstore = s.fstore ++ chainFrom H pm.2.prev pm.2.hashes ∧
       (tipRound H s net).1.fstore.length = s.fstore.length + batchLen s) := by
  refine ⟨gather_exact s net (batchLen s), ?_⟩
  obtain ⟨bans, e | ⟨pm, hpm, stopB, e⟩⟩ := tipRound_cases H s net
  · exact .inl (by rw [e]; rfl)
  · rcases writeMsg_fstore H (ban s bans reasonHeader) pm.2.prev stopB pm.2.hashes with c | ⟨c1, c2⟩
    · exact .inl (by rw [e, c]; rfl)
    · have hf : (tipRound H s net).1.fstore = s.fstore ++ chainFrom H pm.2.prev pm.2.hashes := by rw [e, c2]; rfl
      exact .inr ⟨pm, hpm, c1, hf,
        by rw [hf, List.length_append, chainFrom_length, (gather_exact s net (batchLen s) pm hpm).2]⟩

example : (gather { blocks := [0, 1, 2], fstore := [1], fblk := [0] }
    { peers := [1, 2, 3, 4]
      resps := fun p => if p = 1 then [⟨true, 1, [7, 8, 9]⟩] else if p = 2 then [⟨true, 1, [7]⟩]
                        else if p = 3 then [⟨false, 1, [7, 8]⟩] else [⟨true, 1, [7, 8, 9]⟩, ⟨true, 1, [7, 8]⟩]
      served := fun _ _ => none, verify := fun _ _ => .ok 0, getBlock := fun _ => true, pick := 0 } 2).map (·.1)
    = [4] := by decide +kernel

/-- (b) a batch fetched for blocks that have meanwhile been reorganised away is
not written: when the reorganisation that lands between the query and the write
removes the stop block of the query (distinct block ids), the filter store only
loses the entries of disconnected blocks and gains nothing -/
theorem C03_belongs_stale_batch (H : FHash → Hdr → Hdr) (s : St) (net : Net) (h : Nat) (ids : List Blk)
    (hgone : ∀ b, s.blocks[stopHeight s]? = some b → heightOf (applyMid true s h ids).blocks b = none) :
    (tipRoundMid H true s net h ids).1.fstore <+: s.fstore := by
  rcases tipRoundMid_cases H true s net h ids with e | ⟨bans, e | ⟨pm, -, stopB, hb, e⟩⟩ <;> rw [e]
  · exact List.prefix_refl _
  · exact applyMid_fstore_prefix true s h ids
  · rcases writeMsg_cases H (ban (applyMid true s h ids) bans reasonHeader) pm.2.prev stopB pm.2.hashes with
      ⟨o, c, -⟩ | ⟨e', -, he', -⟩
    · rw [c]; exact applyMid_fstore_prefix true s h ids
    · exact absurd ((hgone stopB hb).symm.trans he') nofun

example : (step (fun f p => 100 * p + f) true { blocks := [0, 1, 2], fstore := [1], fblk := [0] }
    (.wr 1 2 [7, 8])).1.fstore = [1, 107, 10708] := by decide +kernel

/-- (c) hard-coded checkpoints: after the first pass of `resolveConflict` no
surviving checkpoint list contradicts a hard-coded filter-header checkpoint,
and every peer whose list did is banned -/
theorem C03_checkpoints (interval : Nat) (hard : Nat → Option Hdr) (s : St) (cp : List (Peer × List Hdr)) :
    (∀ pc ∈ (hardPass interval hard s cp).2, ∀ i c x, hard ((i + 1) * interval) = some c →
        pc.2[i]? = some x → x = c) ∧
    (∀ pc ∈ cp, contradictsHard interval hard pc.2 = true →
        (pc.1, reasonCheckpoint) ∈ (hardPass interval hard s cp).1.bans) := by
  constructor
  · intro pc hpc i c x hh hx
    have hc : contradictsHard interval hard pc.2 = false := Bool.not_inj (y := false) (List.mem_filter.mp hpc).2
    unfold contradictsHard at hc
    have := List.any_eq_false.mp hc i (List.mem_range.mpr (List.getElem?_eq_some_iff.mp hx).1)
    rw [hh, hx] at this
    exact Decidable.of_not_not fun hne => this (bne_iff_ne.mpr hne)
  · intro pc hpc hbad
    simp only [hardPass, ban, List.mem_append, List.mem_map, List.mem_filter]
    right
    exact ⟨pc.1, ⟨pc, ⟨hpc, hbad⟩, rfl⟩, rfl⟩

example : (hardPass 1000 (fun h => if h = 1000 then some 5 else none) genesis
    [(1, [5, 9]), (2, [6, 9])]).2 = [(1, [5, 9])] := by decide +kernel

/-- (c) the checkpoint list `resolveConflict` agrees on — whichever arm it
took, whatever the peers answered, whichever list the map iteration met first —
equals every hard-coded filter-header checkpoint at its height -/
theorem C03_checkpoints_resolve (interval : Nat) (hard : Nat → Option Hdr) (s : St) (net : Net)
    (cp : List (Peer × List Hdr)) (good : List Hdr)
    (h : (resolveConflict interval hard s net cp).2 = .ok good) :
    ∀ i c x, hard ((i + 1) * interval) = some c → good[i]? = some x → x = c := by
  obtain ⟨pc, hpc, e⟩ := (resolveConflict_spec interval hard s net cp).2 good h
  intro i c x hh hx
  rw [← e] at hx
  exact (C03_checkpoints interval hard s cp).1 pc hpc i c x hh hx

/-- (c) on the checkpointed path: a batch that passed `verifyCheckpoint` and
is written as it came (every batch but the re-based first one) ends exactly at
the agreed checkpoint, which — by `C03_checkpoints` — agrees with every
hard-coded checkpoint -/
theorem C03_checkpoint_batches (H : FHash → Hdr → Hdr) (s : St) (prevCp nextCp prev : Hdr) (stop : Blk)
    (hashes : List FHash) (last : Hdr) (e : Nat)
    (hv : verifyCp H prevCp nextCp prev hashes = true)
    (hw : writeMsg H s prev stop hashes = ((writeMsg H s prev stop hashes).1, .ok last e)) :
    last = nextCp ∧ (writeMsg H s prev stop hashes).1.fstore.getLast? = some nextCp := by
  unfold verifyCp at hv
  obtain ⟨-, hv⟩ := Bool.and_eq_true_iff.mp hv
  rcases writeMsg_cases H s prev stop hashes with ⟨o, ho, hno⟩ | ⟨e', hl, hh, hn0, hn1, ha⟩
  · rw [ho] at hw
    exact absurd (Prod.mk.inj hw).2 (hno last e)
  · rw [writeMsg_of_ok H s prev stop hashes e' hl hh hn0 hn1 ha] at hw ⊢
    have hlast : (chainFrom H prev hashes).getLast?.getD prev = last := (WOut.ok.inj (Prod.mk.inj hw).2).1
    rw [hlast] at hv
    refine ⟨beq_iff_eq.mp hv, ?_⟩
    show (s.fstore ++ chainFrom H prev hashes).getLast? = some nextCp
    rw [List.getLast?_append]
    cases hc : (chainFrom H prev hashes).getLast? with
    | none =>
      have := congrArg List.length (List.getLast?_eq_none_iff.mp hc)
      rw [chainFrom_length] at this
      exact absurd this hn0
    | some x => rw [hc] at hlast; exact congrArg some (hlast.trans (beq_iff_eq.mp hv))

/-- (c) is FALSE on the at-tip path (finding `tip-path-skips-hardcoded-checkpoint`):
`getUncheckpointedCFHeaders` never consults the hard-coded filter-header
checkpoints.  Block 1 has the true filter hash 7, the hard-coded checkpoint at
height 1 is `H 7 genesis = 107`; the only peer answers with the self-consistent
false hash 8 — `108` is committed. -/
theorem C03_checkpoints_tip_counterexample :
    let s : St := { blocks := [0, 1], fstore := [1], fblk := [0] }
    let net : Net := { peers := [1], resps := fun _ => [⟨true, 1, [8]⟩], served := fun _ _ => some 8,
                       verify := fun _ _ => .bad, getBlock := fun _ => true, pick := 0 }
    (tipRound (fun f p => 100 * p + f) s net).1.fstore = [1, 108] ∧
    checkpointsObs [(1, 107)] (tipRound (fun f p => 100 * p + f) s net).1.fstore = false := by decide +kernel

/-- the mechanism of F12 in the model, for every network and state: as soon as
phase 1 of `detectBadPeers` finds anyone, exactly those peers are returned and
no served filter is checked against the block -/
theorem C03_detect_early_return (net : Net) (s : St) (hs : List (Peer × Msg)) (h i : Nat)
    (hne : (phase1 (filtersAt s net h) hs i).isEmpty = false) :
    detect net s hs h i = .ok (phase1 (filtersAt s net h) hs i) := by
  unfold detect
  simp only [hne, Bool.not_false, ↓reduceIte]

/-- the honest-wins clause for one round from state `s` -/
def HonestWinsAt (H : FHash → Hdr → Hdr) (s : St) (net : Net) (truth : Nat → FHash) : Prop :=
  s.fstore.length < s.blocks.length → (roundOf s net truth).hyp = true →
  (roundOf s net truth).concl H ((tipRound H s net).1.fstore.drop s.fstore.length)
    (newBans s (tipRound H s net).1) = true

/-- FULL STATEMENT of clause (d): whenever an honest peer answers and every
false value is provably inconsistent, the honest value is committed, every liar
is banned and no honest peer is.  FALSE for the code as it stands (F12). -/
def C03_honest_wins : Prop :=
  ∀ (H : FHash → Hdr → Hdr) (s : St) (net : Net) (truth : Nat → FHash),
    Inv H s → HonestWinsAt H s net truth

namespace Cex
def H : FHash → Hdr → Hdr := fun f p => 100 * p + f
/-- blocks 0,1 ; filter store at genesis; the true filter hash of block 1 is 7 -/
def s : St := { blocks := [0, 1], fstore := [1], fblk := [0] }
def truth : Nat → FHash := fun _ => 7
/-- peer 1 honest; peer 2 advertises the truth but serves no filter; peer 3
advertises and serves the false filter 8, which the block check would reject -/
def net (pick : Nat) : Net :=
  { peers := [1, 2, 3]
    resps := fun p => if p = 3 then [⟨true, 1, [8]⟩] else [⟨true, 1, [7]⟩]
    served := fun p _ => if p = 1 then some 7 else if p = 3 then some 8 else none
    verify := fun f _ => if f = 8 then .bad else .ok 0
    getBlock := fun _ => true
    pick := pick }
end Cex

/-- F12 as a closed counterexample: one honest, one silent, one self-consistent
liar.  Whichever peer the final map iteration meets first, the liar is never
banned; when it meets the liar (`pick = 1`) the false header `H 8 tip` is
committed. -/
theorem C03_honest_wins_counterexample : ¬ C03_honest_wins := by
  intro h
  have := h Cex.H Cex.s (Cex.net 1) Cex.truth
    ⟨rfl, ⟨[1], rfl⟩, by decide, True.intro⟩
  unfold HonestWinsAt at this
  exact absurd this (by decide +kernel)

/-- in the counterexample the false header is committed and only the silent peer is banned -/
theorem C03_honest_wins_counterexample_commits_false :
    (tipRound Cex.H Cex.s (Cex.net 1)).1.fstore = [1, 108] ∧
    (tipRound Cex.H Cex.s (Cex.net 1)).1.bans = [(2, 3)] ∧
    (roundOf Cex.s (Cex.net 1) Cex.truth).shapeEarlyReturn = true ∧
    -- and with the other map order the honest header is committed, the liar still not banned
    (tipRound Cex.H Cex.s (Cex.net 0)).1.fstore = [1, 107] ∧
    (tipRound Cex.H Cex.s (Cex.net 0)).1.bans = [(2, 3)] := by decide +kernel

/-- Clause (d) under the negation of the recorded shape (since the repair of
`zero-hash-sentinel` a peer advertising the all-zero hash is an ordinary liar
and is covered here): in a round that
is NOT of the F12 shape (`shapeEarlyReturn`: at one index a responding peer is
silent / self-inconsistent AND another is a self-consistent liar), whenever an
honest peer answers
and every false value is provably inconsistent, the batch committed is the
honest one, every liar is banned and no honest peer is — for every hash
function, every state satisfying the invariant (block ids distinct), every
number of peers, every assignment of answers / served filters / verification
results, every order of the peer map and every pick. -/
theorem C03_honest_wins_partial (H : FHash → Hdr → Hdr) (s : St) (net : Net) (truth : Nat → FHash)
    (hi : Inv H s) (hnd : s.blocks.Nodup)
    (hshape : (roundOf s net truth).shapeEarlyReturn = false) :
    HonestWinsAt H s net truth :=
  fun hahead hhyp => honest_wins_round H s net truth hi hnd hahead hhyp hshape

namespace ExPartial
/-- peer 1 honest; peer 2 advertises a false hash but serves the true filter
(caught by phase 1); peer 3 sends a wrong previous header; peer 4 a
self-consistent false filter at the second height (caught by the block) -/
def s : St := { blocks := [0, 1, 2], fstore := [1], fblk := [0] }
def truth : Nat → FHash := fun h => 6 + h
def net (pick : Nat) : Net :=
  { peers := [4, 2, 1, 3]
    resps := fun p =>
      if p = 2 then [⟨true, 1, [9, 8]⟩] else if p = 3 then [⟨true, 5, [7, 8]⟩]
      else if p = 4 then [⟨false, 1, [7, 8]⟩, ⟨true, 1, [7, 9]⟩] else [⟨true, 1, [7, 8]⟩]
    served := fun p h => if p = 4 ∧ h = 2 then some 9 else some (6 + h)
    verify := fun f _ => if f = 9 then .bad else .ok 0
    getBlock := fun _ => true
    pick := pick }
end ExPartial

/-- the hypotheses of `C03_honest_wins_partial` are satisfiable with liars of
three kinds present, and its conclusion is what the model computes -/
example : (roundOf ExPartial.s (ExPartial.net 0) ExPartial.truth).hyp = true ∧
    (roundOf ExPartial.s (ExPartial.net 0) ExPartial.truth).shapeEarlyReturn = false ∧
    ExPartial.s.blocks.Nodup ∧
    (tipRound Cex.H ExPartial.s (ExPartial.net 0)).1.fstore = [1, 107, 10708] ∧
    (tipRound Cex.H ExPartial.s (ExPartial.net 0)).1.bans = [(3, 3), (2, 3), (4, 3)] := by decide +kernel

namespace ExZero
/-- peer 1 honest; peer 2 advertises the all-zero filter hash and serves nothing;
the map iteration meets peer 2 first (the order in which the old code lost the
mismatch) -/
def net (pick : Nat) : Net :=
  { peers := [2, 1]
    resps := fun p => if p = 2 then [⟨true, 1, [0]⟩] else [⟨true, 1, [7]⟩]
    served := fun p _ => if p = 1 then some 7 else none
    verify := fun _ _ => .ok 0
    getBlock := fun _ => true
    pick := pick }
end ExZero

/-- the instance that was the counterexample of the repaired finding
`zero-hash-sentinel` (a peer advertising the all-zero filter hash, met first by
the map iteration) now satisfies the honest-wins clause — it is an instance of
`C03_honest_wins_partial` — and the model computes: mismatch seen, the zero-hash
peer banned, the honest header committed, whichever peer the pick meets -/
theorem C03_zero_hash_liar_caught :
    HonestWinsAt Cex.H Cex.s (ExZero.net 0) Cex.truth ∧
    (roundOf Cex.s (ExZero.net 0) Cex.truth).hyp = true ∧
    (roundOf Cex.s (ExZero.net 0) Cex.truth).noZero = false ∧
    (tipRound Cex.H Cex.s (ExZero.net 0)).1.fstore = [1, 107] ∧
    (tipRound Cex.H Cex.s (ExZero.net 0)).1.bans = [(2, 3)] ∧
    (tipRound Cex.H Cex.s (ExZero.net 1)).1.fstore = [1, 107] := by
  refine ⟨C03_honest_wins_partial Cex.H Cex.s (ExZero.net 0) Cex.truth
    ⟨rfl, ⟨[1], rfl⟩, by decide, True.intro⟩ (by decide) (by decide +kernel), ?_⟩
  decide +kernel

end Neutrino.CFHeaders
