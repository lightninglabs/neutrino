/-
C01 - the stored block-header chain is always fully valid, whatever peers send.
Property theorems only; the invariants and the loop invariants of `handleHeadersMsg` live in
Neutrino/Lemmas/BlockMgrInv.lean, what the handler does from a state satisfying them in BlockMgrShape.lean.
-/
import Neutrino.Lemmas.BlockMgrShape
import Neutrino.Gen.BlockMgr
import Neutrino.Lemmas.HeaderListRefine
import Neutrino.Lemmas.BlockMgrCtx
namespace Neutrino.BM

/-- The invariant C01/C02/C19 share (DESIGN 6.6), C01 part: the stored chain is
well formed, no write ever landed at a file position other than the height it was
indexed under, and `headerList.back` is the stored tip whenever the handler is idle. -/
def InvC01 (c : Cfg) (s : State) : Prop :=
  chainLinkedValid c.tbl s.log = true ∧ s.corrupt = false ∧ ListAnchored s

/-- `BM.inv_step`: every event (headers from any peer, inv, new/done peer, peer height,
filter-header write, backlog request) preserves the invariant, for every validity/work
table, checkpoint list and window size ≥ 1.  The validity rule enters only as the table
`c.tbl.valid`, i.e. under the single hypothesis that a header's validity is a function
of the header and (through its hash chain) its own ancestors. -/
theorem BM.inv_step (c : Cfg) (hw : 1 ≤ c.win) (s : State) (e : Ev) (h : Inv1 c s) : Inv1 c (step c s e).1 :=
  inv1_step c hw s e h

/-- **C01, structural and validity clauses, every history**: after any sequence of events
from any number of peers the stored chain starts with genesis, every header names its
predecessor and is valid on its own branch (btcd's verdict for that header), no write was
misplaced, and the in-memory list is anchored on the stored tip. -/
theorem C01_chain_valid_partial (c : Cfg) (hw : 1 ≤ c.win) (peers : List Peer) (es : List Ev) :
    InvC01 c (run c (init c peers) es) := by
  have h := inv1_run c hw _ es (inv1_init c peers)
  exact ⟨h.good.chainLinkedValid, h.clean, h.anchored⟩

/-- **C01 in full, every history**: for every validity/work table, every ascending checkpoint
list without a checkpoint at height 0, every window size ≥ 1, any number of peers and every event list, the stored chain is
`ChainValid` - genesis first, each header names its predecessor, each is valid on its own
branch, and the header at every checkpoint height IS the checkpoint.  (`chainValid` is the very
predicate the driver evaluates on the real store after every event.) -/
theorem C01_chain_valid (c : Cfg) (ok : CpsOk c.cps) (hw : 1 ≤ c.win) (peers : List Peer) (es : List Ev) :
    chainValid c (run c (init c peers) es).log = true := by
  have h := inv_run c ok hw _ es (inv_init c ok peers)
  simp only [chainValid, Bool.and_eq_true]
  exact ⟨h.good.chainLinkedValid, h.cps.cpsHold⟩

/-- `CheckpointsPassed`: in every reachable state `nextCheckpoint` is the first checkpoint above
the stored tip, every checkpoint at or below the tip is held, and the WHOLE in-memory header list
is the top of the stored chain (`FullAnch`; its back is the stored tip). -/
theorem C01_checkpoints_passed (c : Cfg) (ok : CpsOk c.cps) (hw : 1 ≤ c.win) (peers : List Peer) (es : List Ev) :
    let s := run c (init c peers) es
    s.ncp = findNextCp c.cps (tipHeight s.log) ∧ CpsHold c.cps s.log ∧ FullAnch s.log s.hl ∧ s.corrupt = false := by
  intro s
  have h := inv_run c ok hw _ es (inv_init c ok peers)
  exact ⟨h.ncp, h.cps, h.anch, h.clean⟩

/-- the same, spelled out for the events that go wrong in the field: `nextCheckpoint` is the first
checkpoint above the stored tip after EVERY event list - including `headers` messages whose batch
write fails (`Ev.headersFailWrite`: nothing stored, `nextCheckpoint` untouched even if the batch
had reached the checkpoint) and headers imported underneath followed by `ResetHeaderState`
(`Ev.importReset`: recomputed from the new tip, however many checkpoints the import crossed). -/
theorem C01_next_checkpoint_every_event (c : Cfg) (ok : CpsOk c.cps) (hw : 1 ≤ c.win) (peers : List Peer) (es : List Ev) :
    (run c (init c peers) es).ncp = findNextCp c.cps (tipHeight (run c (init c peers) es).log) :=
  (C01_checkpoints_passed c ok hw peers es).1

/-- the full shared invariant is inductive (`BM.inv_step` of DESIGN 6.6) -/
theorem BM.inv_step_full (c : Cfg) (ok : CpsOk c.cps) (hw : 1 ≤ c.win) (s : State) (e : Ev) (h : BM.Inv c s) :
    BM.Inv c (step c s e).1 := Neutrino.BM.inv_step c ok hw s e h

/-- abstract lookups: by height = position in the log, by hash = `idxOf`, tip = last. -/
theorem C01_lookups_agree (c : Cfg) (hw : 1 ≤ c.win) (peers : List Peer) (es : List Ev) :
    let s := run c (init c peers) es
    s.corrupt = false ∧ s.log ≠ [] ∧
    (∀ id i, idxOf s.log id = some i → s.log[i]? = some id) ∧
    s.log[tipHeight s.log]? = some (tipId s.log) := by
  intro s
  have h := inv1_run c hw _ es (inv1_init c peers)
  exact ⟨h.clean, h.good.ne_nil, fun id i hi => (idxOf_some hi).2, getElem_tip h.good.ne_nil⟩

/-- only headers btcd accepts on their own branch are ever stored -/
theorem C01_only_valid_stored (c : Cfg) (hw : 1 ≤ c.win) (peers : List Peer) (es : List Ev) :
    ((run c (init c peers) es).log.drop 1).all c.tbl.valid = true := by
  have h := (inv1_run c hw _ es (inv1_init c peers)).good.chainLinkedValid
  cases hl : (run c (init c peers) es).log with
  | nil => simp
  | cons g rest =>
    rw [hl] at h
    simp only [chainLinkedValid, Bool.and_eq_true] at h
    simpa using h.2

/-- The facts regenerated from blockmanager.go on this run which the model relies on:
the reorg floor is `findPreviousHeaderCheckpoint(prevNode.Height+1)`, the checkpoint-mismatch
caller keeps the strict form, every early return that follows pushes re-anchors the list,
the reorg arm rolls back, then writes, then resets the list, `writeCFHeadersMsg` writes the
store before notifying, `rollBackToHeight` lowers the in-memory filter tip. -/
theorem C01_source_facts :
    Gen.BlockMgr.reorgFloorArg = "prevNode.Height + 1" ∧
    Gen.BlockMgr.mismatchFloorArg = "node.Height" ∧
    Gen.BlockMgr.reanchorOnSanityFailure = true ∧
    Gen.BlockMgr.reanchorOnCheckpointMismatch = true ∧
    Gen.BlockMgr.reanchorOnFailedWrite = true ∧
    Gen.BlockMgr.reorgOrder = ["rollBackToHeight", "WriteHeaders", "ResetHeaderState"] ∧
    Gen.BlockMgr.cfWriteBeforeNotify = true ∧
    Gen.BlockMgr.rollbackLowersFilterTip = true ∧
    Gen.BlockMgr.connectArmChecksSanity = true ∧
    Gen.BlockMgr.reorgArmUsesReorgList = true ∧
    Gen.BlockMgr.equalWorkReturns = true ∧
    Gen.BlockMgr.numMaxMemHeaders = 10000 :=
  ⟨rfl, rfl, rfl, rfl, rfl, rfl, rfl, rfl, rfl, rfl, rfl, rfl⟩

/-- **`Node.Ancestor` never returns a stale slot** (headerlist/header_list.go on the slot-indexed
ring of bounded_header_list.go): in a ring satisfying the ring invariant - which
`ResetHeaderState` establishes (`HL.reset_inv`) - the walk from the live node `k` behind the back
returns the live node of the asked height if it is at or below that node and among the last `len`
pushed, and `nil` otherwise.  (`HL.push_preserves_RInv` keeps the invariant, so this holds in every ring built by
reset / push: see `C01_headerlist_refines`.) -/
theorem C01_ancestor_correct (r : HL.Ring) (t top : Nat) (inv : HL.RInv r t top) (k h : Nat) (hk : k < r.len) :
    HL.ancestor r (some (HL.slotAt r.cap t k)) h =
      if h ≤ top - k ∧ top + 1 - r.len ≤ h then some (HL.slotAt r.cap t (top - h)) else none :=
  HL.ancestor_correct r t top inv k h hk

/-- **The bounded ring refines the live list - every operation sequence, every ring size ≥ 1,
every query.**  For every sequence of `ResetHeaderState` / `PushBack` operations that starts with
a reset and pushes consecutive heights, `Back`, `k`×`Prev` and `Ancestor(h)` from there return
exactly the node the abstract live list (`specStep`: newest first, at most `cap` nodes;
`specAncestor`: the live node of that height at or behind `k`) holds - in particular never a node
from a reused slot, never a node from before the last reset. -/
theorem C01_headerlist_refines (cap : Nat) (hc : 0 < cap) (ops : List HL.Op) (hne : ops ≠ [])
    (hwf : HL.WF none ops) (k h : Nat) :
    let r := HL.run { cap := cap } ops
    let l := HL.specRun cap [] ops
    r.tail.map (HL.nodeOf r) = l.head? ∧
    (HL.nthPrev r k r.tail).map (HL.nodeOf r) = l[k]? ∧
    (HL.ancestor r (HL.nthPrev r k r.tail) h).map (HL.nodeOf r) = HL.specAncestor l k h := by
  intro r l
  obtain ⟨t, top, a⟩ := HL.abs_run cap hc ops { cap := cap } [] none rfl hwf (fun _ e => by cases e) (Or.inl hne)
  exact HL.abs_queries a k h

example : HL.WF none [.reset 5 1, .push 6 2, .push 7 3, .push 8 4, .push 9 5] := by
  simp [HL.WF]

/-- **`ctx_resolves_own_branch`, every reachable state.**  The header context handed to btcd's
contextual checks resolves "ancestor at height `a`" through the in-memory list given to
`checkHeaderSanity` and then through the store by height (`resolve`; the list's own answers are
those of the abstract list by `C01_headerlist_refines`).  In every reachable state:
* connect arm - for the header that extends the stored tip the context denotes the stored chain
  at every height (the candidate's own ancestors);
* reorg arm - for a branch forking at the stored header `backHead` at height `bh`, after the
  branch headers `pre` have been validated, the context built on `reorgList` denotes the fork-point
  prefix of the stored chain followed by `pre` at every height, as long as `pre` fits the window.
This is what justifies reading "valid" in the validity table as "valid on its OWN branch" in
`C01_chain_valid`.  (`C01_ctx_connect_loop` is the connect arm for every later header of the same
message; `ctx_reorg_small_window_counterexample` shows the window proviso is needed.) -/
theorem C01_ctx_resolves_own_branch (c : Cfg) (ok : CpsOk c.cps) (hw : 1 ≤ c.win) (peers : List Peer) (es : List Ev) :
    let s := run c (init c peers) es
    (∀ a, a < s.log.length → resolve s.hl s.log a = s.log[a]?) ∧
    (∀ bh backHead pre, s.log[bh]? = some backHead → pre.length < c.win →
      ∀ a, a < (s.log.take (bh + 1) ++ pre).length →
        resolve (reorgList c.win backHead bh pre) s.log a = (s.log.take (bh + 1) ++ pre)[a]?) := by
  intro s
  have inv : BM.Inv c s := inv_run c ok hw _ es (inv_init c ok peers)
  refine ⟨?_, ?_⟩
  · intro a ha
    have li : LIf c s {} [] := LIf_of_inv [] inv rfl rfl
    have := (ctx_connect c s {} [] li a (by simpa using ha)).2 (by simp)
    simpa using this
  · intro bh backHead pre hbh hpw a ha
    exact ctx_reorg c.win s.log bh backHead pre hbh hpw a ha

/-- the connect arm inside the loop: every header of a message after the first is checked against
`stored chain ++ headers of this message already accepted` - never against anything else, and
completely while the in-memory list still reaches the stored tip -/
theorem C01_ctx_connect_loop (c : Cfg) (s : State) (l : Loc) (rest : List Nat) (li : LIf c s l rest) (a : Nat)
    (ha : a < (s.log ++ l.batch).length) :
    (∀ x, resolve s.hl s.log a = some x → (s.log ++ l.batch)[a]? = some x) ∧
    (l.batch.length ≤ s.hl.length → resolve s.hl s.log a = (s.log ++ l.batch)[a]?) :=
  ctx_connect c s l rest li a ha

example : resolve (reorgList 4 0 0 [3, 4]) [0, 1, 2] 1 = some 3 := by decide +kernel

/-! Non-vacuity: a concrete table, a fork, a reorganisation. -/
def exTbl : Tbl :=
  { parent := fun i => match i with | 0 => none | 1 => some 0 | 2 => some 1 | 3 => some 1 | 4 => some 3 | 5 => some 2 | _ => none
    work := fun _ => 2
    valid := fun i => i != 5
    fresh := fun _ => true }
def exCfg : Cfg := { tbl := exTbl, cps := [⟨1, 1⟩], win := 4 }
def exPeers : List Peer := [{ id := 1, cand := true }, { id := 2, cand := true }]

example : (run exCfg (init exCfg exPeers) [.newPeer 1, .headers 1 [1, 2], .headers 1 [3, 4]]).log = [0, 1, 3, 4] := by decide +kernel

/-! The store fall-back reads the store AS IT IS NOW.  `resolve` has no memory: it is a function of
the current in-memory list and the current log, and `C01_ctx_resolves_own_branch` holds in every
reachable state - in particular after "re-anchor, validate through the store, reorganise,
re-anchor": sync peer 1 is lost (the list is cut down to the tip `2`), a header is refused, peer 2's
heavier branch `[3, 4]` replaces `2`, peer 2 is lost (the list is `[4]` only).  The ancestor at the
reorganised height 2 is the new branch's `3`, not the abandoned `2`. -/
def exReanchor : List Ev :=
  [.newPeer 1, .headers 1 [1], .headers 1 [2], .donePeer 1, .headers 2 [5], .headers 2 [3, 4], .donePeer 2]

example : (run exCfg (init exCfg exPeers) exReanchor).log = [0, 1, 3, 4] ∧
    (run exCfg (init exCfg exPeers) exReanchor).hl = [⟨4, 3⟩] := by decide +kernel
example : resolve (run exCfg (init exCfg exPeers) exReanchor).hl (run exCfg (init exCfg exPeers) exReanchor).log 2 = some 3 := by decide +kernel
example : (run exCfg (init exCfg exPeers) (exReanchor.take 4)).hl = [⟨2, 2⟩] ∧
    resolve (run exCfg (init exCfg exPeers) (exReanchor.take 4)).hl (run exCfg (init exCfg exPeers) (exReanchor.take 4)).log 1 = some 1 := by decide +kernel
example : (run exCfg (init exCfg exPeers) [.newPeer 1, .headers 1 [1, 2], .headers 2 [5]]).log = [0, 1] := by decide +kernel
example : (run exCfg (init exCfg exPeers) [.newPeer 1, .headersFailWrite 1 [1, 2]]).log = [0] ∧
    (run exCfg (init exCfg exPeers) [.newPeer 1, .headersFailWrite 1 [1, 2]]).ncp = some ⟨1, 1⟩ := by decide +kernel
example : (run exCfg (init exCfg exPeers) [.importReset [1, 3, 4] 2]).log = [0, 1, 3, 4] ∧
    (run exCfg (init exCfg exPeers) [.importReset [1, 3, 4] 2]).ncp = none ∧
    (run exCfg (init exCfg exPeers) [.importReset [1, 3, 4] 2]).fst = 2 := by decide +kernel
example : CpsOk exCfg.cps := ⟨by simp [exCfg], by simp [exCfg]⟩
example : InvC01 exCfg (run exCfg (init exCfg exPeers) [.newPeer 1, .headers 1 [1, 2], .headers 1 [3, 4]]) :=
  C01_chain_valid_partial exCfg (by decide +kernel) exPeers _

/-- a flip-back history: A = 1,2 stored; B = 3,4,5 (fork at 1) heavier; A extended by 6,7 heavier again -/
def exTblFlip : Tbl :=
  { parent := fun i => match i with
      | 1 => some 0 | 2 => some 1 | 3 => some 1 | 4 => some 3 | 5 => some 4 | 6 => some 2 | 7 => some 6 | _ => none
    work := fun i => if i == 7 then 2 else 1
    valid := fun _ => true
    fresh := fun _ => true }
def exCfgFlip : Cfg := { tbl := exTblFlip, cps := [], win := 8 }
def exPeersFlip : List Peer := [{ id := 1, cand := true }]
def exFlip : List Ev := [.newPeer 1, .headers 1 [1, 2], .headers 1 [3, 4, 5], .headers 1 [1, 2, 6, 7]]

/-- **by-hash = exactly the stored chain, in every reachable state** - after any number of
reorganisations, branch flips back to a branch stored before, failed writes and imports: a hash
the client was ever given resolves iff its header is on the chain read by height, and then at the
position it is stored at.  (The differential run asks the real store for EVERY hash of the world
after every event and compares with this; the oracle clause is `lookupsAgree`.) -/
theorem C01_hash_resolves_iff_stored (c : Cfg) (hw : 1 ≤ c.win) (peers : List Peer) (es : List Ev) :
    let s := run c (init c peers) es
    s.corrupt = false ∧
    (∀ id, (idxOf s.log id).isSome = true ↔ id ∈ s.log) ∧
    (∀ id i, idxOf s.log id = some i → s.log[i]? = some id) := by
  intro s
  have h := inv1_run c hw _ es (inv1_init c peers)
  exact ⟨h.clean, fun id => idxOf_isSome_iff _ id, fun id i hi => (idxOf_some hi).2⟩

/-- the store as it is (no memo): whatever is written, rolled back and asked, in any order, a
hash resolves iff it is on the stored chain -/
theorem C01_store_resolves_iff_on_chain (s0 : MemoSt) (ops : List SOp) (id : Nat) :
    ((srun false s0 ops).resolve false id).isSome = true ↔ id ∈ (srun false s0 ops).log := by
  simp only [MemoSt.resolve, Bool.false_eq_true, ↓reduceIte]
  exact idxOf_isSome_iff _ id

/-- the full statement for a store with a look-up memo that roll-backs do not invalidate ... -/
def C01_memo_store_resolves_iff_on_chain : Prop :=
  ∀ (ops : List SOp) (id : Nat),
    ((srun true {} ops).resolve true id).isSome = true ↔ id ∈ (srun true {} ops).log

/-- ... is false: write header 1, ask for it, roll it back - it still resolves. -/
theorem C01_memo_survives_rollback_counterexample : ¬ C01_memo_store_resolves_iff_on_chain := by
  intro h
  have := h [.write [1], .ask 1, .rollback] 1
  revert this
  decide

example : (srun true {} [.write [1], .ask 1, .rollback, .write [2]]).log = [0, 2] ∧
    (srun true {} [.write [1], .ask 1, .rollback, .write [2]]).resolve true 1 = some 1 ∧
    (srun false {} [.write [1], .ask 1, .rollback, .write [2]]).resolve false 1 = none := by decide +kernel
example : (run exCfgFlip (init exCfgFlip exPeersFlip) exFlip).log = [0, 1, 2, 6, 7] ∧
    idxOf (run exCfgFlip (init exCfgFlip exPeersFlip) exFlip).log 3 = none := by decide +kernel

end Neutrino.BM
