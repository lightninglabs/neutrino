/-
C14, the file side: "both header stores hold … their earlier contents extended
by THE FILE'S HEADERS up to the file's last height" presupposes that what the
importer reads at index `i` is the `i`-th header the file holds, stamped with
height `start + i`, and that a file that is cut short, torn, of another format
version or of an unknown header type is refused.  Proved here for every file
(any number of headers, any metadata) about the byte-level model of
chainimport/headers.go + file_source.go; the model is compared with the real
`fileHeaderImportSource` on generated files (driver `impfile`).
-/
import Neutrino.Lemmas.ImportFile
namespace Neutrino.ImportFile

def Meta.InRange (m : Meta) : Prop := m.magic < two32 ∧ m.version < 256 ∧ m.typ < 256 ∧ m.start < two32

/-- **Metadata round trip**: what `encode` writes, `decode` reads back, leaving the rest of the file. -/
theorem C14_meta_roundtrip (m : Meta) (hr : m.InRange) (hv : m.version = 0) (rest : Bytes) :
    decodeMeta (encodeMeta m ++ rest) = .ok (m, rest) := by
  obtain ⟨h1, _, h3, h4⟩ := hr
  unfold decodeMeta encodeMeta
  simp only [List.append_assoc, rd32_le32 m.magic h1]
  simp only [List.singleton_append, hv, rd8_byte 0 (by omega), ne_eq, not_true_eq_false, ↓reduceIte,
    rd8_byte m.typ h3, rd32_le32 m.start h4]
  cases m; simp_all

/-- another format version is refused, whatever follows -/
theorem C14_meta_version_refused (m : Meta) (hr : m.InRange) (hv : m.version ≠ 0) (rest : Bytes) :
    decodeMeta (encodeMeta m ++ rest) = .error .version := by
  obtain ⟨h1, h2, _, _⟩ := hr
  unfold decodeMeta encodeMeta
  simp only [List.append_assoc, rd32_le32 m.magic h1]
  simp only [List.singleton_append, rd8_byte m.version h2, ne_eq, hv, not_false_eq_true, ↓reduceIte]

/-- a file too short for the metadata is refused -/
theorem C14_short_file_refused (bs : Bytes) (h : bs.length < 10) : openFile bs = .error .short ∨ openFile bs = .error .version := by
  unfold openFile
  rcases decodeMeta_cases bs with hd | hd | ⟨m, rest, _, _, hlen⟩
  · left; rw [hd]
  · right; rw [hd]
  · exact absurd (hlen ▸ Nat.le_add_left _ _) (Nat.not_le_of_gt h)

/-- **What `Open` accepts is a whole file**: metadata of version 0 and a known type followed by exactly
`count ≥ 1` headers — no torn tail, nothing shifted. -/
theorem C14_open_sound (bs : Bytes) (info : Info) (h : openFile bs = .ok info) :
    info.md.version = 0 ∧ headerSize info.md.typ = some info.size ∧
    bs.length - metaSize = (bs.length - metaSize) / info.size * info.size ∧ bs.length - metaSize ≠ 0 ∧
    info.count = (bs.length - metaSize) / info.size % two32 := by
  unfold openFile at h
  rcases decodeMeta_cases bs with hd | hd | ⟨m, rest, hd, hver, _⟩
  · rw [hd] at h; cases h
  · rw [hd] at h; cases h
  rw [hd] at h
  dsimp only at h
  cases hs : headerSize m.typ with
  | none => rw [hs] at h; cases h
  | some sz =>
  rw [hs] at h
  dsimp only at h
  by_cases h0 : bs.length - metaSize = 0
  · rw [if_pos h0] at h; cases h
  by_cases ht : (bs.length - metaSize) % sz ≠ 0
  · rw [if_neg h0, if_pos ht] at h; cases h
  rw [if_neg h0, if_neg ht] at h
  cases h
  refine ⟨hver, hs, ?_, h0, rfl⟩
  -- the body is a whole number of headers
  have := Nat.div_add_mod (bs.length - metaSize) sz
  rw [Decidable.not_not.mp ht, Nat.add_zero, Nat.mul_comm] at this
  exact this.symm

/-- the known header types and their sizes -/
theorem C14_header_sizes : headerSize 0 = some 80 ∧ headerSize 1 = some 32 ∧ ∀ t, 2 ≤ t → headerSize t = none := by
  refine ⟨rfl, rfl, ?_⟩
  intro t ht
  match t, ht with
  | t + 2, _ => rfl

/-- **File round trip**: a file made of metadata and `n ≥ 1` headers of the right size opens, reports `n`
headers ending at height `start + n - 1`, and `GetHeader i` returns exactly the `i`-th header stamped with
height `start + i` — for every `i`, every `n`, every content. -/
theorem C14_file_roundtrip (m : Meta) (hr : m.InRange) (hv : m.version = 0) (sz : Nat) (hsz : headerSize m.typ = some sz)
    (hdrs : List Bytes) (hne : hdrs ≠ []) (hL : ∀ c ∈ hdrs, c.length = sz)
    (hsmall : metaSize + hdrs.length * sz < two32) (hend : m.start + hdrs.length < two32) :
    ∃ info, openFile (encodeFile m hdrs) = .ok info ∧ info.md = m ∧ info.size = sz ∧ info.count = hdrs.length ∧
      info.endH = m.start + hdrs.length - 1 ∧
      ∀ i (hi : i < hdrs.length), getHeader (encodeFile m hdrs) info i = .ok (hdrs[i], m.start + i) := by
  have hszpos := headerSize_pos hsz
  have hpos : 0 < hdrs.length := List.length_pos_iff.mpr hne
  have hlt : hdrs.length < two32 :=
    Nat.lt_of_le_of_lt (Nat.le_trans (Nat.le_mul_of_pos_right _ hszpos) (Nat.le_add_left _ _)) hsmall
  refine ⟨⟨m, sz, hdrs.length, m.start + hdrs.length - 1⟩, ?_, rfl, rfl, rfl, rfl, fun i hi => ?_⟩
  · unfold openFile
    rw [show encodeFile m hdrs = encodeMeta m ++ hdrs.flatten from rfl, C14_meta_roundtrip m hr hv]
    simp only [hsz]
    rw [show encodeMeta m ++ hdrs.flatten = encodeFile m hdrs from rfl, encodeFile_length m sz hdrs hL,
      Nat.add_sub_cancel_left, if_neg (Nat.ne_of_gt (Nat.mul_pos hpos hszpos)),
      if_neg (by rw [Nat.mul_mod_left]; exact fun h => h rfl), Nat.mul_div_cancel _ hszpos, Nat.mod_eq_of_lt hlt,
      pred_two32 (Nat.lt_of_lt_of_le hpos (Nat.le_add_left _ _)) hend]
  · have hoff : metaSize + i * sz < two32 :=
      Nat.lt_of_le_of_lt (Nat.add_le_add_left (Nat.mul_le_mul_right sz (Nat.le_of_lt hi)) _) hsmall
    unfold getHeader
    dsimp only
    rw [Nat.mod_eq_of_lt hoff, encodeFile_drop, chunk_at sz hdrs hL i hi,
      if_neg (by rw [hL _ (List.getElem_mem hi)]; exact Nat.lt_irrefl _), Nat.add_comm i,
      Nat.mod_eq_of_lt (Nat.lt_trans (Nat.add_lt_add_left hi _) hend)]

/-- an index past the last header is refused (no wrap-around of the offset below 4 GiB) -/
theorem C14_get_past_end_refused (bs : Bytes) (info : Info) (i : Nat) (hsz : 0 < info.size)
    (hoff : metaSize + i * info.size < two32) (hpast : bs.length < metaSize + i * info.size + info.size) :
    getHeader bs info i = .error .read := by
  unfold getHeader
  simp only [Nat.mod_eq_of_lt hoff]
  have : ((bs.drop (metaSize + i * info.size)).take info.size).length < info.size :=
    Nat.lt_of_le_of_lt (List.length_take_le' _ _) (by rw [List.length_drop]; omega)
  rw [if_pos this]

/-- a body that is not a whole number of headers is refused; so is a file with no header -/
theorem C14_torn_or_empty_refused (m : Meta) (hr : m.InRange) (hv : m.version = 0) (sz : Nat) (hsz : headerSize m.typ = some sz)
    (body : Bytes) (hbad : body.length = 0 ∨ body.length % sz ≠ 0) :
    openFile (encodeMeta m ++ body) = .error .empty ∨ openFile (encodeMeta m ++ body) = .error .torn := by
  unfold openFile
  rw [C14_meta_roundtrip m hr hv]
  simp only [hsz]
  have : (encodeMeta m ++ body).length - metaSize = body.length := by
    simp [encodeMeta_length, metaSize]
  rw [this]
  rcases hbad with h | h
  · left; simp [h]
  · by_cases h0 : body.length = 0
    · left; simp [h0]
    · right; simp [h0, h]

/-- Remark (not a finding): the offset of `GetHeader` is computed in `uint32`; an index of `2^32 / size` or
more wraps around and is served from the front of the file with a height that does not belong to it.  The
importer never asks for such an index (files are smaller than 4 GiB and its indices stay below the header
count); the model wraps exactly like the code, and the driver compares the two on such indices too. -/
theorem C14_get_offset_wraps_remark :
    (getHeader (encodeFile ⟨1, 0, 1, 5⟩ [(List.range 32).map (fun i => UInt8.ofNat i)]) ⟨⟨1, 0, 1, 5⟩, 32, 1, 5⟩ 134217728).toOption =
      some ((List.range 32).map (fun i => UInt8.ofNat i), 134217733) := by decide +kernel

namespace Ex
def m : Meta := ⟨0x0709110b, 0, 1, 700000⟩
def h0 : Bytes := (List.range 32).map (fun i => UInt8.ofNat i)
def h1 : Bytes := (List.range 32).map (fun i => UInt8.ofNat (100 + i))
end Ex

example : Ex.m.InRange ∧ Ex.m.version = 0 ∧ headerSize Ex.m.typ = some 32 ∧ (∀ c ∈ [Ex.h0, Ex.h1], c.length = 32) := by
  refine ⟨by unfold Meta.InRange two32; decide, rfl, rfl, by decide⟩
example : (openFile (encodeFile Ex.m [Ex.h0, Ex.h1])).toOption.map (fun i => (i.count, i.endH)) = some (2, 700001) := by decide +kernel
example : (getHeader (encodeFile Ex.m [Ex.h0, Ex.h1]) ⟨Ex.m, 32, 2, 700001⟩ 1).toOption = some (Ex.h1, 700001) := by decide +kernel
example : (match openFile ((encodeFile Ex.m [Ex.h0, Ex.h1]).dropLast) with | .error .torn => true | _ => false) = true := by decide +kernel
example : (match openFile (encodeMeta Ex.m) with | .error .empty => true | _ => false) = true := by decide +kernel
example : (match openFile (encodeMeta { Ex.m with typ := 7 } ++ Ex.h0) with | .error .type => true | _ => false) = true := by decide +kernel
example : (match openFile (encodeMeta { Ex.m with version := 1 } ++ Ex.h0) with | .error .version => true | _ => false) = true := by decide +kernel

end Neutrino.ImportFile
