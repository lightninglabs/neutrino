/-
C09 — rescan callbacks form a consistent chain walk and miss no relevant transaction.

The walk and no-miss statements are about `Neutrino.Rescan.run`, i.e. EVERY list of events: every chain history (grow /
reorg at any moment, also between two catch-up steps and while blocks wait in the retry queue), every pattern of filter /
block fetch failures and filter false positives (`setF`/`setB`/`setFp` scripts), every timing of updates and rewinds.  The
current-arm, disconnect and retry-queue statements are about one `step` from an ARBITRARY state, reachable or not.
-/
import Neutrino.Lemmas.RescanWalk
import Neutrino.Lemmas.RescanMiss
import Neutrino.Gen.Rescan
namespace Neutrino.Rescan

/-- FULL statement of the walk clause: for every world, start, watch set and event list, the callbacks walk the tree.
FALSE for the code as it is (F13) — see `C09_walk_counterexample`. -/
def C09_walk : Prop :=
  ∀ (W : World) (chain : List Nat) (start startH : Nat) (w : Watch) (evs : List Ev),
    walkFrom W start (run W (init W chain start startH w) evs).2 = true

namespace Cex
/-- tree: 1 ← 2 ← 3, 1 ← 4 ← 5 and 2 ← 6 -/
def W : World :=
  { prev := fun b => match b with | 2 => 1 | 3 => 2 | 4 => 1 | 5 => 4 | 6 => 2 | _ => 0,
    height := fun b => match b with | 2 => 1 | 3 => 2 | 4 => 1 | 5 => 2 | 6 => 2 | _ => 0,
    late := fun _ => true, txs := fun _ => [] }
/-- catch up to block 2, the chain reorganises below it, the next catch-up step announces 5 (child of 4) -/
def evs : List Ev := [.step, .reorg 2 [4, 5], .step]
end Cex

theorem C09_walk_counterexample : ¬ C09_walk := fun h =>
  absurd (h Cex.W [1, 2, 3] 1 0 {} Cex.evs) (by decide +kernel)

/-- the callbacks of the counterexample: connected 2, then connected 5 whose parent 4 was never announced -/
example : (run Cex.W (init Cex.W [1, 2, 3] 1 0 {}) Cex.evs).2 = [.conn 1 2 [], .conn 2 5 []] := by decide +kernel

namespace CexU
/-- tree: 1 ← 2 ← 3 ← 7 (7 pays watched script 9) and 1 ← 4 ← 5 ← 8 -/
def W : World :=
  { prev := fun b => match b with | 2 => 1 | 3 => 2 | 7 => 3 | 4 => 1 | 5 => 4 | 8 => 5 | _ => 0,
    height := fun b => match b with | 2 => 1 | 3 => 2 | 7 => 3 | 4 => 1 | 5 => 2 | 8 => 3 | _ => 0,
    late := fun _ => true,
    txs := fun b => match b with | 7 => [⟨70, [], [9]⟩] | _ => [] }
def w : Watch := { addrs := [9], wl := [9] }
/-- catch up to 3 and subscribe; 7 connects; the chain reorganises three deep (unread: D7 D3 D2 C4 C5 C8); the queued
`Connected 7` is processed first and its block fetch fails: the rescan drops to the catch-up arm on block 3, its
subscription (and the disconnects) is replaced at the next subscribe; the catch-up step announces 8, child of 5 -/
def evs : List Ev := [.step, .step, .step, .grow 7, .reorg 3 [4, 5, 8], .setB [true], .connected 7, .step]
end CexU

/-- second refutation of `C09_walk`, by the other recorded shape -/
theorem C09_walk_counterexample_unread :
    walkFrom CexU.W 1 (run CexU.W (init CexU.W [1, 2, 3] 1 0 CexU.w) CexU.evs).2 = false := by decide +kernel

example : (run CexU.W (init CexU.W [1, 2, 3] 1 0 CexU.w) CexU.evs).2 =
    [.conn 1 2 [], .conn 2 3 [], .conn 3 8 []] := by decide +kernel

/-- the best chain is a path of the tree -/
def linkedB (W : World) : List Nat → Bool
  | a :: b :: r => (W.prev b == a) && linkedB W (b :: r)
  | _ => true

theorem linkedB_get (W : World) (l : List Nat) (h : linkedB W l = true) (i a b : Nat)
    (ha : l[i]? = some a) (hb : l[i + 1]? = some b) : W.prev b = a := by
  induction l generalizing i with
  | nil => cases ha
  | cons x r ih =>
    cases r with
    | nil => cases hb
    | cons y r' =>
      simp only [linkedB, Bool.and_eq_true, beq_iff_eq] at h
      cases i with
      | zero => cases ha; cases hb; exact h.1
      | succ j => exact ih h.2 j ha hb

/-! The two recorded shapes, tracked along the run exactly as the trace driver does (`Spec.Rescan.staleNext`). -/

/-- label after an event: `s` before, `s'` after -/
def trackNext (st : Stale) (s s' : St) : Stale := staleNext st (onChainB s'.chain s'.cur s'.curH) s.current

def track0 (s : St) : Stale := staleNext .no (onChainB s.chain s.cur s.curH) false

/-- the catch-up arm is about to advance by height -/
def advancing (s : St) : Bool := !s.dead && !s.current && decide (s.curH + 1 ≤ best s)

/-- HYPOTHESIS of the partial walk theorem, per event.  `step`: when the catch-up arm is about to advance, the label is
`no`, i.e. NEITHER `shape=reorg-during-catchup` NOR `shape=reorg-unread-at-catchup` (and the best chain is a path of the
tree).  The other conjuncts are well-formedness of the inputs, as in `StepOk`. -/
def stepGoodB (W : World) (st : Stale) (s : St) (e : Ev) : Bool :=
  match e with
  | .step => !(advancing s) || (linkedB W s.chain && (st == .no))
  | .disconnected b tip => tip == W.prev b
  | .update u => !u.quiet
  | _ => true

def goodB (W : World) : Stale → St → List Ev → Bool
  | _, _, [] => true
  | st, s, e :: es => stepGoodB W st s e && goodB W (trackNext st s (step W s e).1) (step W s e).1 es

/-- the label of the first catch-up step that advances from a block off the best chain (`no`: there is none) -/
def firstShape (W : World) : Stale → St → List Ev → Stale
  | _, _, [] => .no
  | st, s, e :: es =>
    if e == .step && advancing s && st != .no then st
    else firstShape W (trackNext st s (step W s e).1) (step W s e).1 es

/-- the label says `no` only when the current block is on the best chain -/
def TrackInv (st : Stale) (s : St) : Prop := st = .no → onChainB s.chain s.cur s.curH = true

theorem staleNext_no (st : Stale) (oc a : Bool) (h : staleNext st oc a = .no) : oc = true := by
  cases oc with
  | true => rfl
  | false => cases st <;> cases a <;> cases h

/-- with the label `no` the current block is on the linked best chain, so the block at the next height is its child -/
theorem stepGood_ok (W : World) (st : Stale) (s : St) (e : Ev) (hi : TrackInv st s)
    (hg : stepGoodB W st s e = true) : StepOk W s e := by
  cases e with
  | step =>
    intro hd hc b hb
    have hlt : s.curH + 1 < s.chain.length := (List.getElem?_eq_some_iff.mp hb).1
    have ha : advancing s = true := by
      rw [advancing, hd, hc]
      exact decide_eq_true (Nat.le_sub_one_of_lt hlt)
    rw [stepGoodB, ha, Bool.not_true, Bool.false_or, Bool.and_eq_true, beq_iff_eq] at hg
    exact linkedB_get W s.chain hg.1 s.curH s.cur b (eq_of_beq (hi hg.2)) hb
  | disconnected b tip => exact beq_iff_eq.mp hg
  | update u => exact Eq.mp (Bool.not_eq_true' u.quiet) hg
  | _ => trivial

theorem goodB_runOk (W : World) (evs : List Ev) (st : Stale) (s : St) (hi : TrackInv st s)
    (hg : goodB W st s evs = true) : RunOk W s evs := by
  induction evs generalizing st s with
  | nil => trivial
  | cons e es ih =>
    simp only [goodB, Bool.and_eq_true] at hg
    exact ⟨stepGood_ok W st s e hi hg.1, ih _ _ (staleNext_no _ _ _) hg.2⟩

/-- PARTIAL walk clause: every history exhibiting NEITHER recorded shape (and with well-formed notifications, no silent rewinds)
yields a valid walk from the start block — growth, reorganisations of any depth while current or while blocks wait in
the retry queue, fetch failures, updates and rewinds at any moment included. -/
theorem C09_walk_partial (W : World) (chain : List Nat) (start startH : Nat) (w : Watch) (evs : List Ev)
    (hg : goodB W (track0 (init W chain start startH w)) (init W chain start startH w) evs = true) :
    walkFrom W start (run W (init W chain start startH w) evs).2 = true :=
  walk_run W evs _ start (.inr rfl) (goodB_runOk W evs _ _ (staleNext_no _ _ _) hg)

/-- In the current arm the walk clause is unconditional: whatever notification arrives (any block, any order, any fetch
outcome) and whenever the retry timer fires, a connected callback is only issued for a child of the current block and a
disconnected callback only for the current block. -/
theorem C09_walk_current_arm (W : World) (s : St) (b : Nat) (e : Ev) (hd : s.dead = false)
    (he : e = .connected b ∨ e = .tick ∨ e = .disconnected b (W.prev b)) :
    ∃ c, walkEnd W s.cur (step W s e).2 = some c ∧ ((step W s e).1.dead = true ∨ c = (step W s e).1.cur) := by
  rcases he with rfl | rfl | rfl
  · exact step_walk W s _ trivial
  · exact step_walk W s _ trivial
  · exact step_walk W s _ rfl

/-- Every disconnect is reported: in the current arm, consuming the `Disconnected` that names the current block delivers
exactly the disconnected callback for it (with the current height) and moves the stamp to the notification's new tip —
whatever the chain source holds by then (the model never looks the parent up: `ntfn.ChainTip()`). -/
theorem C09_disconnect_reported (W : World) (s : St) (tip : Nat) (hd : s.dead = false) (hc : s.current = true) :
    (step W s (.disconnected s.cur tip)).2 = [Cb.disc s.curH s.cur] ∧
    (step W s (.disconnected s.cur tip)).1.cur = tip ∧
    (step W s (.disconnected s.cur tip)).1.curH = s.curH - 1 ∧
    discReported s.cur s.cur (step W s (.disconnected s.cur tip)).2 = true := by
  rw [step_disconnected_cur (by rw [hd, hc]; rfl)]
  exact ⟨rfl, rfl, rfl, by simp only [discReported, isDiscOf, List.any_cons, beq_self_eq_true, Bool.true_or, Bool.or_true]⟩

/-- non-vacuity / sharpness of the oracle: silence on such a notification is rejected -/
example : discReported 6 6 [] = false := by decide
example : discReported 6 6 [.disc 5 6] = true := by decide
example : discReported 6 7 [] = true := by decide

/-- a reorganisation that stays above the rescan's height keeps its current block on the best chain (so the hypothesis of
`C09_walk_partial` can only be lost by a reorganisation reaching at/below it, or by growth never) -/
theorem C09_reorg_above_keeps_cur (s : St) (d : Nat) (bs : List Nat) (W : World)
    (hon : s.chain[s.curH]? = some s.cur) (habove : s.curH < s.chain.length - d) :
    (step W s (.reorg d bs)).1.chain[(step W s (.reorg d bs)).1.curH]? = some (step W s (.reorg d bs)).1.cur := by
  simp only [step]
  rw [List.getElem?_append_left (by simp; omega)]
  rw [List.getElem?_take]
  simp [habove, hon]

/-- the hypothesis is satisfiable on a non-trivial history: catch-up, subscribe, a reorganisation while current
(disconnect, then connect of the replacement), a rewind, catch-up again -/
def goodEvs : List Ev := [.step, .step, .step, .reorg 1 [6], .disconnected 3 2, .connected 6,
    .update { rewind := 1 }, .step, .step]

example : goodB Cex.W (track0 (init Cex.W [1, 2, 3] 1 0 {})) (init Cex.W [1, 2, 3] 1 0 {}) goodEvs = true := by decide +kernel

example : (run Cex.W (init Cex.W [1, 2, 3] 1 0 {}) goodEvs).2 =
    [.conn 1 2 [], .conn 2 3 [], .disc 2 3, .conn 2 6 [], .disc 2 6, .conn 2 6 []] := by decide +kernel

/-- and it is exactly what the counterexample violates -/
example : goodB Cex.W (track0 (init Cex.W [1, 2, 3] 1 0 {})) (init Cex.W [1, 2, 3] 1 0 {}) Cex.evs = false := by decide +kernel

/-- ... with the label the driver prints for it -/
example : firstShape Cex.W (track0 (init Cex.W [1, 2, 3] 1 0 {})) (init Cex.W [1, 2, 3] 1 0 {}) Cex.evs = .catchup := by decide +kernel

/-- the second counterexample is excluded by the hypothesis too, under the other label -/
example : goodB CexU.W (track0 (init CexU.W [1, 2, 3] 1 0 CexU.w)) (init CexU.W [1, 2, 3] 1 0 CexU.w) CexU.evs = false := by
  decide +kernel

example : firstShape CexU.W (track0 (init CexU.W [1, 2, 3] 1 0 CexU.w)) (init CexU.W [1, 2, 3] 1 0 CexU.w) CexU.evs
    = .unread := by decide +kernel

/-- FULL no-miss clause: whatever the history, every transaction the caller is owed with a connected block (pays a
watched script / spends a watched outpoint, including outpoints created by earlier matches and items added by updates from
the moment they took effect; from the first block at/after the start time on) is in that block's callback.
Hypotheses = ground-truth consistency only: filters are true BIP158 filters of a consistent world (`WorldOk`; false
positives allowed via `setFp`, false negatives impossible), watched inputs carry the script of the output they name. -/
theorem C09_no_miss (W : World) (hW : WorldOk W) (chain : List Nat) (start startH : Nat)
    (addrs : List Script) (inputs : List WIn) (evs : List Ev)
    (htr : Truthful W inputs) (hu : UpdTruthful W evs) :
    noMissFrom W (callerInit W start { addrs := addrs, inputs := inputs, wl := addrs ++ inputs.map (·.2) })
      (runObs W (init W chain start startH { addrs := addrs, inputs := inputs, wl := addrs ++ inputs.map (·.2) }) evs)
      = true :=
  no_miss_run W hW evs _ _ (WatchLe.refl _) id
    ⟨fun _ h => List.mem_append_left _ h, fun _ h => List.mem_append_right _ (List.mem_map_of_mem h)⟩ htr hu

namespace NM
/-- block 2 pays watched script 7 (tx 10, output 0); block 3 spends that outpoint (tx 11) -/
def W : World :=
  { prev := fun b => match b with | 2 => 1 | 3 => 2 | _ => 0,
    height := fun b => match b with | 2 => 1 | 3 => 2 | _ => 0,
    late := fun _ => true,
    txs := fun b => match b with
      | 2 => [⟨10, [], [7]⟩]
      | 3 => [⟨11, [⟨⟨10, 0⟩, 7⟩], [8]⟩]
      | _ => [] }
def evs : List Ev := [.step, .step, .update { addrs := [8], rewind := 1 }, .step, .step]
end NM

/-- non-vacuity: the hypotheses hold for a world in which the spend of an outpoint created earlier in the rescan must be
(and is) delivered; the rewind after adding script 8 re-delivers block 3's transaction -/
example : WorldOk NM.W := by
  intro b t i b' t' o ht hi ht' hid ho
  simp only [NM.W] at ht ht'
  -- only block 3 holds a transaction with an input, and only block 2 one with the id that input names
  split at ht
  · cases List.mem_singleton.mp ht; cases hi
  · cases List.mem_singleton.mp ht; cases List.mem_singleton.mp hi
    split at ht'
    · cases List.mem_singleton.mp ht'; exact Option.some.inj ho
    · cases List.mem_singleton.mp ht'; cases hid
    · cases ht'
  · cases ht

example : (run NM.W (init NM.W [1, 2, 3] 1 0 { addrs := [7], wl := [7] }) NM.evs).2 =
    [.conn 1 2 [10], .conn 2 3 [11], .disc 2 3, .conn 2 3 [11]] := by decide +kernel

/-- the oracle is not trivially true: the same stream with the spend left out of block 3's callback fails it -/
example : noMissFrom NM.W (callerInit NM.W 1 { addrs := [7], wl := [7] })
    [.cb (.conn 1 2 [10]), .cb (.conn 2 3 [])] = false := by decide +kernel

/-- what the event itself does to the queue before anything is delivered from it -/
def queueAfter (e : Ev) (q : List Nat) : List Nat :=
  match e with
  | .connected b => q ++ [b]
  | .disconnected b _ => qRemove q b
  | _ => q

/-- C09_retry: while the rescan is current and blocks wait for a retry, every event delivers a PREFIX of the queue in queue
order (possibly nothing) and leaves the rest queued in order; a newly connected block goes to the back (it cannot overtake),
a disconnect only cuts a tail (`qRemove_prefix`), nothing else touches the queue. -/
theorem C09_retry (W : World) (s : St) (e : Ev) (hd : s.dead = false) (hc : s.current = true)
    (hq : s.queue ≠ []) :
    ∃ k, connIds (step W s e).2 = s.queue.take k ∧ (step W s e).1.queue = (queueAfter e s.queue).drop k := by
  have hl : (s.dead || !s.current) = false := by rw [hd, hc]; rfl
  cases e with
  | grow | reorg | setF | setB | setFp => exact ⟨0, rfl, rfl⟩
  | connected b =>
    rw [step_connected_stash hl (List.isEmpty_eq_false_iff.mpr hq)]
    exact ⟨0, rfl, rfl⟩
  | disconnected b tip =>
    by_cases hb : b = s.cur
    · subst hb; rw [step_disconnected_cur hl]; exact ⟨0, rfl, rfl⟩
    · rw [step_disconnected_other hl hb]; exact ⟨0, rfl, rfl⟩
  | step => rw [step_step_idle (by rw [hc, Bool.or_true])]; exact ⟨0, rfl, rfl⟩
  | tick =>
    cases ht : s.timer
    · rw [step_tick_idle (by rw [ht, Bool.not_false, Bool.or_true])]; exact ⟨0, rfl, rfl⟩
    · rw [step_tick_retry (by rw [hd, hc, ht]; rfl)]
      exact (retryLoop_spec W s.queue.length { s with timer := false } (Nat.le_refl _)).1
  | update u =>
    obtain ⟨cur, curH, hs, hx⟩ := applyUpdate_frame W s u
    generalize ha : applyUpdate W s u = x at hs hx
    obtain ⟨s', cbs, rew, failed⟩ := x
    have hq' : s'.queue = s.queue := by rw [show s' = _ from hs]
    cases failed
    · obtain ⟨c, h⟩ := step_update_ok hd ha
      rw [h]
      exact ⟨0, connIds_quiet cbs hx, hq'⟩
    · rw [step_update_failed hd ha]
      exact ⟨0, by rw [connIds_append, connIds_quiet cbs hx]; rfl, hq'⟩

/-- a block whose filter fetch failed is queued (front of an empty queue) with the timer armed and nothing delivered -/
theorem C09_retry_enqueue (W : World) (s : St) (b : Nat) (hd : s.dead = false) (hc : s.current = true)
    (hq : s.queue = []) (hf : (handleConnected W s b).2.2 = .retry) :
    (step W s (.connected b)).2 = [] ∧ (step W s (.connected b)).1.queue = [b] ∧
    (step W s (.connected b)).1.timer = true := by
  rw [step_connected_handle (by rw [hd, hc]; rfl) (by rw [hq]; rfl)]
  obtain ⟨sc, fS, fpS, bS, -, ⟨hr, -, h⟩ | ⟨-, -, txs, w, h, -⟩⟩ := handleConnected_cases W s b <;> rw [h] at hf ⊢
  · cases hf
    exact ⟨rfl, by rw [hq]; rfl, rfl⟩
  · cases hf

/-- non-vacuity: a failed filter fetch queues block 2, block 3 is stashed behind it, the timer delivers 2 then 3 -/
example : (run Cex.W (init Cex.W [1] 1 0 { addrs := [7], wl := [7] })
    [.step, .grow 2, .grow 3, .setF [true], .connected 2, .connected 3, .tick]).2 = [.conn 1 2 [], .conn 2 3 []] := by
  decide +kernel

example : (run Cex.W (init Cex.W [1] 1 0 { addrs := [7], wl := [7] })
    [.step, .grow 2, .grow 3, .setF [true], .connected 2, .connected 3]).1.queue = [2, 3] := by decide +kernel

/-- Re-proved against the regenerated `Gen/Rescan.lean` on every run.  `catchUpChecksPrev = false` is F13 itself: a repair
flips it and forces `catchUp` (and `C09_walk_counterexample`) to be revisited. -/
theorem C09_source_facts :
    Gen.Rescan.connectedChecksPrev = true ∧ Gen.Rescan.connectedPrevCheckFirst = true ∧
    Gen.Rescan.catchUpChecksPrev = false ∧ Gen.Rescan.catchUpReadsByHeight = true ∧
    Gen.Rescan.catchUpSubscribeClearsQueue = true ∧ Gen.Rescan.disconnectedChecksCur = true ∧
    Gen.Rescan.stashWhenQueueNonEmpty = true ∧ Gen.Rescan.disconnectRemovesFromQueue = true ∧
    Gen.Rescan.retryPopsOnlyOnSuccess = true ∧ Gen.Rescan.queueRemoveTruncates = true ∧
    Gen.Rescan.paysAppendsInput = true ∧ Gen.Rescan.paysAppendsWatchList = true ∧
    Gen.Rescan.updateAppendsWatchList = true ∧ Gen.Rescan.retryIntervalMs = 100 ∧
    Gen.Rescan.connectedCurAdvanceAfterNotify = true := by decide +kernel

end Neutrino.Rescan
