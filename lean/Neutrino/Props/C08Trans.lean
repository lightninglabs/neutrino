/-
C08 - the start-up reconciliation arithmetic in terms of the functions the CODE defines
(`trimPartialHeader`, `resetInterruptedInit`; translated from headerfs/store.go on every run,
Gen/TransStore.lean): what `C08_recover` / `C08_first_init` assume of a start (a torn tail is cut back
to whole entries; an interrupted first initialisation starts over) is what the code computes.
-/
import Neutrino.Props.C08
import Neutrino.Lemmas.TransStore
namespace Neutrino.Store
open Neutrino.Gen.TransStore Neutrino.GoInt

/-- **`trimPartialHeader`**: a file of `n` whole entries plus `junk < z` torn bytes is truncated to
exactly `n * z` bytes, and left alone when there is no torn tail. -/
theorem C08_trans_trimPartialHeader (size : Atom → Int) (fi : Atom) (trunc : Int → Bool) (n junk z : Nat)
    (hz : junk < z) (hsize : size fi = ((n * z + junk : Nat) : Int)) :
    trimPartialHeader size (fi, false) trunc ((z : Int), false)
      = (if junk = 0 then false else trunc ((n * z : Nat) : Int)) :=
  trans_trimPartialHeader size fi trunc n junk z hz hsize

theorem C08_trans_trimPartialHeader_err (size : Atom → Int) (st : Atom × Bool) (trunc : Int → Bool) (sz : Int × Bool)
    (h : st.2 = true ∨ sz.2 = true) : trimPartialHeader size st trunc sz = true :=
  trans_trimPartialHeader_err size st trunc sz h

/-- **`resetInterruptedInit`**: the file is emptied exactly when it holds one entry and the index has
no chain tip; otherwise nothing is touched. -/
theorem C08_trans_resetInterruptedInit (fileSize : Int) (trunc : Int → Bool) (hasTip : Bool) (z : Int) :
    resetInterruptedInit fileSize trunc (hasTip, false) (z, false)
      = (if fileSize = z ∧ hasTip = false then (0, trunc 0) else (fileSize, false)) :=
  trans_resetInterruptedInit fileSize trunc hasTip z

example : (17 : Nat) < 80 ∧ ((fun (_ : Atom) => (257 : Int)) 0 = ((3 * 80 + 17 : Nat) : Int)) := by decide
example : trimPartialHeader (fun _ => 257) (0, false) (fun n => decide (n ≠ 240)) (80, false) = false := rfl
example : resetInterruptedInit 80 (fun _ => false) (false, false) (80, false) = (0, false) := rfl
example : resetInterruptedInit 160 (fun _ => true) (false, false) (80, false) = (160, false) := rfl

end Neutrino.Store
