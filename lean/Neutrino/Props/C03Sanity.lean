/-
Property C03, the region "peers' filter checkpoint lists of DIFFERING LENGTHS":
what `checkCFCheckptSanity` concludes for every family of lists and every store.
The lemmas are in `Lemmas/CFSanity.lean`, the specification in `Spec/CFSanity.lean`
(the same `sanitySpec` the driver evaluates on the lists and the store the real
function was given, against the value the real function returned).

The one hypothesis, `noZeroCp`, excludes the all-zero hash from the lists: the Go
loop uses it as its "nothing seen yet" marker (a double-SHA256 value never is).
-/
import Neutrino.Lemmas.CFSanity
namespace Neutrino.CFHeaders

/-- for every family of checkpoint lists, of any lengths, and every store: the
function returns the FIRST index — looked for up to the end of the LONGEST list —
at which two lists that both reach it differ, or a list that reaches it differs
from the stored filter header of that checkpoint height; `-1` iff there is none -/
theorem C03_sanity_spec (interval : Nat) (fstore : List Hdr) (cp : List (Peer × List Hdr))
    (hz : noZeroCp cp = true) : checkSanity interval fstore cp = sanitySpec interval fstore cp :=
  checkSanity_eq_spec interval fstore cp hz

/-- "full agreement" is only reported when EVERY pair of lists agrees at every
index both reach — also beyond the end of a shorter third list — and every list
agrees with the store at every checkpoint height the store has -/
theorem C03_sanity_agreement (interval : Nat) (fstore : List Hdr) (cp : List (Peer × List Hdr))
    (hz : noZeroCp cp = true) (h : checkSanity interval fstore cp = none) :
    (∀ pc ∈ cp, ∀ qc ∈ cp, ∀ (i : Nat) (x y : Hdr), pc.2[i]? = some x → qc.2[i]? = some y → x = y) ∧
    (∀ pc ∈ cp, ∀ (i : Nat) (x : Hdr), pc.2[i]? = some x → (i + 1) * interval ≤ fstore.length - 1 →
       fstore[(i + 1) * interval]? = some x) := by
  rw [checkSanity_eq_spec interval fstore cp hz] at h
  -- no index that some list reaches shows a disagreement
  have hno := fun (pc : Peer × List Hdr) (hp : pc ∈ cp) (i : Nat) (x : Hdr) (hx : pc.2[i]? = some x) =>
    (disagreeAt_eq_false_iff interval fstore cp i).mp (Bool.eq_false_iff.mpr
      (List.find?_eq_none.mp h i (List.mem_range.mpr ((lt_maxLen_iff cp i).mpr ⟨pc, hp, x, hx⟩))))
  exact ⟨fun pc hp qc hq i x y hx hy => (hno pc hp i x hx).1 pc hp qc hq x y hx hy,
    fun pc hp i x hx hle => (hno pc hp i x hx).2 hle pc hp x hx⟩

/-- a reported index is a real disagreement, lies inside the longest list, and
no smaller index shows one -/
theorem C03_sanity_first (interval : Nat) (fstore : List Hdr) (cp : List (Peer × List Hdr))
    (hz : noZeroCp cp = true) (d : Nat) (h : checkSanity interval fstore cp = some d) :
    disagreeAt interval fstore cp d = true ∧ d < maxLen cp ∧
    ∀ i, i < d → disagreeAt interval fstore cp i = false := by
  rw [checkSanity_eq_spec interval fstore cp hz] at h
  obtain ⟨a, b, c⟩ := List.find?_range_eq_some.mp h
  exact ⟨a, List.mem_range.mp b, fun i hi => Bool.not_inj (y := false) (c i hi)⟩

/-- a forged checkpoint is noticed wherever it sits: if two of the lists differ
at some index both reach — however short a third list may be — the function
reports a disagreement at or before that index, never "full agreement" -/
theorem C03_sanity_forgery_noticed (interval : Nat) (fstore : List Hdr) (cp : List (Peer × List Hdr))
    (hz : noZeroCp cp = true) (pc qc : Peer × List Hdr) (hp : pc ∈ cp) (hq : qc ∈ cp) (i : Nat) (x y : Hdr)
    (hx : pc.2[i]? = some x) (hy : qc.2[i]? = some y) (hxy : x ≠ y) :
    ∃ d, d ≤ i ∧ checkSanity interval fstore cp = some d := by
  cases hc : checkSanity interval fstore cp with
  | none => exact absurd ((C03_sanity_agreement interval fstore cp hz hc).1 pc hp qc hq i x y hx hy) hxy
  | some d =>
    refine ⟨d, Nat.le_of_not_lt fun hlt => hxy ?_, rfl⟩
    have h1 := (C03_sanity_first interval fstore cp hz d hc).2.2 i hlt
    exact ((disagreeAt_eq_false_iff interval fstore cp i).mp h1).1 pc hp qc hq x y hx hy

/-- the hypotheses are satisfiable and the statement is not vacuous: an honest
list, a correct but SHORT list (length 1) and a list forged at index 2 — beyond
the end of the short one; the forgery is reported at index 2.  Comparing only
up to the shortest list would report full agreement here. -/
example :
    let cp : List (Peer × List Hdr) := [(1, [11, 12, 13]), (2, [11]), (3, [11, 12, 99])]
    noZeroCp cp = true ∧ checkSanity 1000 [1] cp = some 2 ∧ sanitySpec 1000 [1] cp = some 2 ∧
    -- the empty list and the boundary "forged exactly at the first index the short list lacks"
    checkSanity 1000 [1] [(1, [11, 12]), (2, []), (3, [98, 12])] = some 0 ∧
    checkSanity 1000 [1] [(1, [11, 12]), (2, [11]), (3, [11, 98])] = some 1 ∧
    -- lists of differing lengths that agree wherever they overlap: full agreement
    checkSanity 1000 [1] [(1, [11, 12, 13]), (2, [11]), (3, [11, 12])] = none := by decide +kernel

end Neutrino.CFHeaders
