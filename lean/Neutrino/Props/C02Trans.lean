/-
C02 - the floor of a reorganisation in terms of the function the CODE defines:
`findPreviousHeaderCheckpoint` is translated from blockmanager.go on every run (Gen/TransBM.lean).
-/
import Neutrino.Props.C02
import Neutrino.Lemmas.TransBlockMgr
namespace Neutrino.BM
open Neutrino.Gen.TransBM

/-- **`(*blockManager).findPreviousHeaderCheckpoint`** yields the height of the model's
`findPrevCp`, whatever the genesis hash -/
theorem C02_trans_findPreviousHeaderCheckpoint (h : Int) (h0 : 0 ≤ h) (cps : List T_chaincfg_Checkpoint) (ok : CpsOkT cps)
    (g : GoInt.Atom) :
    ((findPreviousHeaderCheckpoint h cps g).map (fun c => c.Height.toNat))
      = some (findPrevCp (cps.map absCp) h.toNat).height :=
  trans_findPrev_height h h0 cps ok g

/-- `C02_replace_guard` with the floor computed by the code's own function: a reorganisation is
only ever decided onto a fork point at or above the checkpoint `findPreviousHeaderCheckpoint`
returns for `prevNode.Height + 1`. -/
theorem C02_trans_replace_guard (c : Cfg) (cps : List T_chaincfg_Checkpoint) (okT : CpsOkT cps) (hc : c.cps = cps.map absCp)
    (g : GoInt.Atom) (s : State) (p : Nat) (prev : Node) (h : Nat) (rest : List Nat) (bh : Nat)
    (hd : reorgDecision c s p prev h rest = .adopt bh) :
    ∃ cp, findPreviousHeaderCheckpoint (((prev.height + 1 : Nat)) : Int) cps g = some cp ∧ cp.Height.toNat ≤ bh := by
  have hg := (C02_replace_guard c s p prev h rest bh hd).2.2.1
  obtain ⟨cp, hcp, he⟩ := Option.map_eq_some_iff.mp
    (C02_trans_findPreviousHeaderCheckpoint ((prev.height + 1 : Nat) : Int) (Int.natCast_nonneg _) cps okT g)
  exact ⟨cp, hcp, by rw [he, Int.toNat_natCast, ← hc]; exact hg⟩

/-- **`(*blockManager).BlockHeadersSynced` is the model's `synced`** (the "node is current" guard of
`C02_replace_guard`): for the stored tip, the checkpoint list and the sync peer of a model state,
with the freshness verdict read off the tip's timestamp and a sync peer whose last block is not below
the starting height it advertised (unconnected btcd peers advertise none). -/
theorem C02_trans_BlockHeadersSynced (c : Cfg) (s : State) (cps : List T_chaincfg_Checkpoint)
    (hc : c.cps = cps.map absCp) (hnn : ∀ x ∈ cps, 0 ≤ x.Height)
    (add : GoInt.Atom → Int → GoInt.Atom) (before : GoInt.Atom → GoInt.Atom → Bool) (now : GoInt.Atom)
    (hdr : T_wire_BlockHeader) (last start : Int)
    (hfresh : c.tbl.fresh (tipId s.log) = !(before hdr.Timestamp (add now (-86400000000000))))
    (hlast : ∀ p, s.sync = some p → last = ((lastBlockOf s.peers p : Nat) : Int))
    (hstart : start ≤ last) :
    BlockHeadersSynced cps s.sync.isNone add before (some hdr, tipHeight s.log, false) now last start = synced c s := by
  rw [trans_blockHeadersSynced]
  unfold synced
  simp only [Bool.not_false, Bool.true_and, GoInt.deref_some, hfresh, hc, List.getLast?_map]
  have ecp : ∀ l ∈ cps, decide (l.Height < ((tipHeight s.log : Nat) : Int)) = decide ((absCp l).height < tipHeight s.log) :=
    fun l hl => decide_eq_decide.mpr
      (by rw [← absCp_lt (hnn l hl) (Int.natCast_nonneg _), Int.toNat_natCast])
  cases hs : s.sync with
  | none =>
    cases hl : cps.getLast? with
    | none => simp
    | some l => simp [ecp l (List.mem_of_getLast? hl)]
  | some p =>
    have := hlast p hs
    have e : decide (((tipHeight s.log : Nat) : Int) < last) = decide (tipHeight s.log < lastBlockOf s.peers p) := by
      rw [this]; exact decide_eq_decide.mpr Int.ofNat_lt
    cases hl : cps.getLast? with
    | none => simp [hstart, e]
    | some l => simp [hstart, e, ecp l (List.mem_of_getLast? hl)]

example : CpsOkT [⟨1, 1⟩, ⟨5, 7⟩] := ⟨by decide, by decide⟩
example : findPreviousHeaderCheckpoint 6 [⟨1, 1⟩, ⟨5, 7⟩] 42 = some ⟨5, 7⟩ := by decide +kernel
example : findPreviousHeaderCheckpoint 5 [⟨1, 1⟩, ⟨5, 7⟩] 42 = some ⟨1, 1⟩ := by decide +kernel

end Neutrino.BM
