/-
C07 — the header stores behave as an append/rollback log and survive reopening.
-/
import Neutrino.Lemmas.StoreFault
import Neutrino.Lemmas.IndexBuckets
import Neutrino.Lemmas.StoreReads
import Neutrino.Lemmas.StoreSplit
namespace Neutrino.Store

/-- **Refinement to a plain pair of lists**, for every operation from every
state representing any log (hence, by induction, after every history): the
store returns exactly what the list returns and ends in a state representing
the list's result. -/
theorem C07_refines (d : Durable) (l : Log) (op : Op) (hrep : Rep d l) (hc : Contract l op) (hro : op ≠ .reopen) :
    (exec d op .none).2 = expectOut l op ∧ Rep (exec d op .none).1 (l.apply op) :=
  exec_none d l op hrep hc hro

/-- whole histories: any sequence of operations, each under its contract -/
def ContractAll : Log → List Op → Prop
  | _, [] => True
  | l, op :: ops => Contract l op ∧ op ≠ .reopen ∧ ContractAll (l.apply op) ops

def execAll (d : Durable) : List Op → Durable
  | [] => d
  | op :: ops => execAll (exec d op .none).1 ops

def applyAll (l : Log) : List Op → Log
  | [] => l
  | op :: ops => applyAll (l.apply op) ops

theorem C07_refines_history (ops : List Op) (d : Durable) (l : Log) (hrep : Rep d l) (hc : ContractAll l ops) :
    Rep (execAll d ops) (applyAll l ops) := by
  induction ops generalizing d l with
  | nil => exact hrep
  | cons op ops ih =>
    obtain ⟨h1, h2, h3⟩ := hc
    exact ih _ _ (C07_refines d l op hrep h1 h2).2 h3

/-- **Reopening changes nothing.** -/
theorem C07_reopen_id (d : Durable) (l : Log) (hrep : Rep d l) :
    ∃ d', exec d .reopen .none = (d', .ok) ∧ Rep d' l := by
  obtain ⟨d', h1, h2⟩ := reopen_ahead hrep.ahead
  exact ⟨d', by simp [exec, h1], h2⟩

/-- **Lookups on a state representing `l` answer from `l`**: by height, by
hash (index), and the tips; an id that is not in the list is not found. -/
theorem C07_lookups (d : Durable) (l : Log) (hrep : Rep d l) :
    (∀ i, d.bf.get? i = l.blocks[i]?) ∧ (∀ i, d.ff.get? i = l.filters[i]?) ∧
    (∀ id i, d.db.height? id = some i ↔ l.blocks[i]? = some id) ∧
    (∃ tip, l.blocks.getLast? = some tip ∧ btipHeight? d = some (tip, l.blocks.length - 1)) ∧
    (∃ b, ftipHeight? d = some (b, l.filters.length - 1)) ∧
    (∀ id, id ∉ l.blocks → d.db.height? id = none) := by
  refine ⟨fun i => by simp [FileSt.get?, hrep.bents], fun i => by simp [FileSt.get?, hrep.fents],
    fun id i => ⟨hrep.idxOnly id i, hrep.idxPos i id⟩, rep_btipHeight hrep, rep_ftipHeight hrep, ?_⟩
  intro id hni
  cases hh : d.db.height? id with
  | none => rfl
  | some h => exact absurd (List.mem_of_getElem? (hrep.idxOnly id h hh)) hni

/-- **Ancestor ranges and filter lookups by block hash answer from the list.**
`FetchHeaderAncestors(n, hash)` of a stored hash at height `h` returns the
`n + 1` entries of the list ending at `h` (and their start height) when
`n ≤ h`, fails when more ancestors are asked for than exist, and fails for a
hash that is not in the list; the filter store's lookup by block hash returns
the filter entry at the block's height. -/
theorem C07_ancestors (d : Durable) (l : Log) (hrep : Rep d l) (id h n : Nat) (hid : l.blocks[h]? = some id) :
    (n ≤ h → fetchAncestors d n id = some (h - n, (l.blocks.drop (h - n)).take (n + 1))) ∧
    (n > h → fetchAncestors d n id = none) ∧
    fetchFilterByHash d id = l.filters[h]? ∧
    (∀ id', id' ∉ l.blocks → fetchAncestors d n id' = none ∧ fetchFilterByHash d id' = none) := by
  have hh : d.db.height? id = some h := hrep.idxPos h id hid
  have hlt : h < l.blocks.length := (List.getElem?_eq_some_iff.mp hid).1
  refine ⟨fun hn => ?_, fun hn => ?_, ?_, fun id' hni => ?_⟩
  · simp only [fetchAncestors, hh, Nat.not_lt.mpr hn, if_false, hrep.bents, readRange_clean hlt (Nat.sub_le h n),
      Nat.sub_sub_self hn, Option.map_some]
  · simp only [fetchAncestors, hh, hn, if_true]
  · simp only [fetchFilterByHash, hh, Option.bind_some, FileSt.get?, hrep.fents, Bool.false_eq_true, if_false]
  · have : d.db.height? id' = none := (C07_lookups d l hrep).2.2.2.2.2 id' hni
    simp only [fetchAncestors, fetchFilterByHash, this, Option.bind_none, and_self]

/-- **The block locator is the list's**: it starts at the tip, names entries of
the list at strictly decreasing heights (one step back for the first ten,
doubling afterwards), and ends at genesis unless it is cut at the 500 entries a
`getheaders` message can carry. -/
theorem C07_locator (d : Durable) (l : Log) (hrep : Rep d l) :
    let hs := locatorHeights (l.blocks.length - 1)
    locator d = some (hs.filterMap (fun i => l.blocks[i]?)) ∧
    hs.head? = some (l.blocks.length - 1) ∧ List.Pairwise (· > ·) hs ∧
    (hs.getLast? = some 0 ∨ 500 ≤ hs.length) := by
  intro hs
  obtain ⟨tip, _, hbt⟩ := rep_btipHeight hrep
  refine ⟨?_, locatorHeights_head _, locatorHeights_desc _, locatorHeights_last _⟩
  simp only [locator, hbt]
  have hget : d.bf.get? = (fun i => l.blocks[i]?) := by
    funext i; simp [FileSt.get?, hrep.bents]
  rw [hget]
  apply mapM_get_of_le
  intro x hx
  exact Nat.lt_of_le_of_lt (locatorHeights_le _ x hx) (Nat.sub_lt (List.length_pos_iff.mpr hrep.neB) Nat.one_pos)

/-- what `C07_ancestors` and `C07_locator` rely on in headerfs/store.go (regenerated
on every run; `wire.MaxBlockLocatorsPerMsg` = 500 is btcd's constant, trusted) -/
theorem C07_reads_source_shape :
    Gen.Store.ancestorsRangeEndsAtHash = true ∧ Gen.Store.locatorStepsBackDoubling = true := by decide

/-- **Rolled-back entries are no longer found.** -/
theorem C07_rolled_back_not_found (d : Durable) (l : Log) (n : Nat) (hrep : Rep d l)
    (hc : Contract l (.rb n)) (id : Nat) (hid : id ∈ l.blocks.drop (l.blocks.length - n)) :
    (exec d (.rb n) .none).1.db.height? id = none := by
  have h := (C07_refines d l (.rb n) hrep hc (by simp)).2
  apply (C07_lookups _ _ h).2.2.2.2.2
  simp only [Log.apply]
  intro hm
  have hnd : (l.blocks.take (l.blocks.length - n) ++ l.blocks.drop (l.blocks.length - n)).Nodup := by
    rw [List.take_append_drop]; exact hrep.nodup
  exact (List.nodup_append.mp hnd).2.2 id hm id hid rfl

/-- **A refused rollback leaves the store as it was**: past genesis for the
block store, at height 0 for the filter store. -/
theorem C07_refused (d : Durable) (l : Log) (hrep : Rep d l) :
    (∀ n, l.blocks.length ≤ n → exec d (.rb n) .none = (d, .err)) ∧
    (l.filters.length = 1 → exec d .rf .none = (d, .err)) := by
  obtain ⟨tip, htip, hbt⟩ := rep_btipHeight hrep
  obtain ⟨b, hft⟩ := rep_ftipHeight hrep
  have h0 : 0 < l.blocks.length := List.length_pos_iff.mpr hrep.neB
  constructor
  · intro n hn
    have hn0 : n ≠ 0 := Nat.ne_of_gt (Nat.lt_of_lt_of_le h0 hn)
    have : n > l.blocks.length - 1 := Nat.lt_of_lt_of_le (Nat.sub_lt h0 Nat.one_pos) hn
    simp only [exec, rollbackBlocks, hn0, if_false, hbt, this, if_true, R.fin]
  · intro h1
    simp only [exec, hft, h1, Nat.sub_self, if_true]

/-- **An append that reports failure leaves the store as it was**, for every
single injected I/O fault (short write of any length, write error, index-commit
error, truncate error, at any step); an append the fault does not reach
succeeds as specified.  (Block-header store; `C07_failed_filter_append_unchanged`
is the same statement for the filter-header store.) -/
theorem C07_failed_append_unchanged (d : Durable) (l : Log) (ids : List Nat) (k : FaultKind) (fs a : Nat)
    (hrep : Rep d l) (hc : Contract l (.wb ids)) :
    let r := exec d (.wb ids) (.fault k fs a)
    (r.2 = .err ∧ r.1 = d) ∨ (r.2 = .ok ∧ Rep r.1 (l.apply (.wb ids))) :=
  exec_append_fault d l (.wb ids) k fs a hrep hc ⟨ids, Or.inl rfl⟩

theorem C07_failed_filter_append_unchanged (d : Durable) (l : Log) (fids : List Nat) (k : FaultKind) (fs a : Nat)
    (hrep : Rep d l) (hc : Contract l (.wf fids)) :
    let r := exec d (.wf fids) (.fault k fs a)
    (r.2 = .err ∧ r.1 = d) ∨ (r.2 = .ok ∧ Rep r.1 (l.apply (.wf fids))) :=
  exec_append_fault d l (.wf fids) k fs a hrep hc ⟨fids, Or.inr rfl⟩

/-- **The two-place bbolt layout of the index is invisible.**  The model's
index `Db` is a plain map; the code keeps an entry either directly in the root
bucket (databases written by older versions) or in a sub-bucket named by the
hash prefix (every new entry), pre-creating all sub-buckets at open.  For every
split of the entries over the two places in which no hash is stored twice, and
every naming of buckets `pre`: opening creates the missing buckets without
changing any answer; `addHeaders`' loop cannot fail on a missing bucket and
writes what `Db.addHeaders` writes (for hashes the root bucket does not hold —
the callers never append a hash that is already stored); `deleteHeaderEntries`
of indexed hashes succeeds and removes what `Db.delAll` removes, wherever each
hash was kept; all of this preserves "no hash stored twice" and "every bucket
exists".  Hence every theorem about `Db` holds of the code's layout, legacy
entries included. -/
theorem C07_index_layout (pre : Nat → Nat) (b : Buckets) (db : Db)
    (hd : b.Disjoint pre) (hr : b.Refines pre db) :
    (b.ensure.Ready ∧ b.ensure.Disjoint pre ∧ b.ensure.Refines pre db) ∧
    (b.Ready → ∀ ids s, (∀ id ∈ ids, b.root id = none) →
        ∃ b', Buckets.addAll pre b ids s = some b' ∧ b'.Ready ∧ b'.Disjoint pre ∧
          b'.Refines pre (Db.addHeaders.go db ids s)) ∧
    (∀ ids, (∀ id ∈ ids, db.height? id ≠ none) →
        ∃ b', b.delEntries pre ids = some b' ∧ (b.Ready → b'.Ready) ∧ b'.Disjoint pre ∧
          b'.Refines pre (db.delAll ids)) := by
  refine ⟨⟨Buckets.ready_ensure b, Buckets.disjoint_ensure pre b hd, fun id => ?_⟩, ?_, ?_⟩
  · rw [Buckets.get_ensure]; exact hr id
  · intro hready ids s hroot
    obtain ⟨h1, h2⟩ := Buckets.addAll_ready pre ids b s hready
    obtain ⟨h3, h4⟩ := Buckets.refines_putAll pre ids b db s hd hr hroot
    exact ⟨_, h1, h2, h3, h4⟩
  · intro ids hall
    obtain ⟨b', hb', hd', hr'⟩ := Buckets.refines_delAll pre b db ids hd hr hall
    exact ⟨b', hb', fun hready => Buckets.ready_delEntries pre b b' ids hready hb', hd', hr'⟩

/-- the side condition is needed, and says what it seems to: a hash kept in both
places survives its own deletion (the root copy goes, the sub-bucket copy
answers the next lookup).  Unreachable: new entries only go to sub-buckets, and
no caller appends a hash that is still stored. -/
theorem C07_index_layout_needs_disjoint :
    let b : Buckets := { root := fun j => if j = 1 then some 5 else none,
                         sub := fun _ => some (fun j => if j = 1 then some 7 else none) }
    ((b.delEntries (fun _ => 0) [1]).map (fun b' => b'.get (fun _ => 0) 1)) = some (some 7) := by
  decide

/-- **What `C07_index_layout` relies on in headerfs/index.go** (regenerated from
the working tree on every run): `getHeaderEntry` reads the sub-bucket and falls
back to the root bucket both when the bucket and when the key is missing;
`addHeaders` writes entries only through `putHeaderEntryInBucket` into the
bucket named by the hash prefix and puts nothing but the tip key into the root
bucket; `deleteHeaderEntries` deletes from the root bucket exactly the hashes
it finds there and the others from their sub-buckets, failing on a missing
bucket; `newHeaderIndex` runs `ensureIndexSubBuckets`, which creates every
two-byte prefix. -/
theorem C07_index_source_shape :
    Gen.Store.indexGetSubThenRoot = true ∧ Gen.Store.indexFallbackReadsRoot = true ∧
    Gen.Store.indexAddIntoSubBucket = true ∧ Gen.Store.indexPutKeyIsHash = true ∧
    Gen.Store.indexDeleteRootElseSub = true ∧ Gen.Store.indexOpenEnsuresSubBuckets = true ∧
    Gen.Store.indexEnsureAllPrefixes = true := by decide

/-- **Failed bulk append, as the code writes the index** (one transaction for
the whole batch and the tip, fact `indexAddOneTransaction`): `WriteHeaders`
over the single-chunk split is all or nothing for every injected fault — a
batch of any size. -/
theorem C07_single_tx_append_unchanged (d : Durable) (l : Log) (ids : List Nat) (k : FaultKind) (fs a : Nat)
    (hrep : Rep d l) (hc : Contract l (.wb ids)) :
    let r := R.fin (writeBlocksSplit ids [stamped ids l.blocks.length] { d := d, inj := .fault k fs a })
    (r.2 = .err ∧ r.1 = d) ∨ (r.2 = .ok ∧ Rep r.1 (l.apply (.wb ids))) := by
  rw [writeBlocksSplit_single, ← exec_wb hrep]
  exact C07_failed_append_unchanged d l ids k fs a hrep hc

/-- **Every split writes the same on success**: with nothing injected, the
transactions of any split of the batch leave the index exactly as the single
transaction does — cutting the write up is invisible until something fails. -/
theorem C07_split_success_same (tip : Option Nat) (chunks : List (List (Nat × Nat))) (d : Durable) (st : Nat)
    (hne : chunks ≠ []) :
    ∃ n m, indexTxs tip chunks ⟨d, st, .none⟩ = R.ok true
        ⟨{ d with db := { (d.db.putAll chunks.flatten) with btip := tip.orElse (fun _ => d.db.btip) } }, st + n, .none⟩ ∧
      indexTxs tip [chunks.flatten] ⟨d, st, .none⟩ = R.ok true
        ⟨{ d with db := { (d.db.putAll chunks.flatten) with btip := tip.orElse (fun _ => d.db.btip) } }, st + m, .none⟩ := by
  obtain ⟨n, hn⟩ := indexTxs_none tip chunks d st hne
  obtain ⟨m, hm⟩ := indexTxs_none tip [chunks.flatten] d st (by simp)
  refine ⟨n, m, hn, ?_⟩
  simpa using hm

/-- **…but a split index write is not all-or-nothing**, even with the tip moved
by the last transaction only: two transactions, the second one fails — the
append reports the failure, the flat file is cut back and the tip has not
moved, yet the hash of a header that was never appended resolves to a height
beyond the tip (and the filter store, which shares the index, resolves it too).
The failed append has left the store changed. -/
theorem C07_split_append_counterexample :
    let r := R.fin (writeBlocksSplit [1, 2] [[(1, 1)], [(2, 2)]] { d := init, inj := .fault .dberr 2 0 })
    r.2 = .err ∧ r.1 ≠ init ∧ r.1.bf = init.bf ∧ r.1.db.btip = init.db.btip ∧
    r.1.db.height? 1 = some 1 ∧ abs r.1 = none := by decide

/-- what the two theorems above rely on in headerfs/index.go (regenerated on every run) -/
theorem C07_bulk_source_shape : Gen.Store.indexAddOneTransaction = true := by decide

/-- **A range that is not entirely in the file is an error — for every length**:
whatever the start, a range whose end lies beyond the last whole entry yields
no headers at all (never the part that exists, never zero-filled entries). -/
theorem C07_short_file_read_fails (f : FileSt) (lo hi : Nat) (h : f.ents.length ≤ hi) :
    readRange f lo hi = none := by
  unfold readRange
  by_cases hc : f.corrupt = true
  · simp only [hc, ↓reduceIte]
  · have : ¬ (hi < f.ents.length ∧ lo ≤ hi) := fun h' => Nat.not_lt.mpr h h'.1
    simp only [hc, this, ↓reduceIte, Bool.false_eq_true]

/-- **The filter store's ancestor ranges answer from the list or fail**: the
height of the stop hash comes from the shared block index, so with the block
store ahead a stop hash above the filter tip names a range the filter file
does not hold; then — whether the range starts below, at or above the filter
tip — the call fails; inside the file it returns the list's entries. -/
theorem C07_filter_ancestors (d : Durable) (l : Log) (hrep : Rep d l) (id h n : Nat) (hid : l.blocks[h]? = some id) :
    (n ≤ h → h < l.filters.length →
      fetchFilterAncestors d n id = some (h - n, (l.filters.drop (h - n)).take (n + 1))) ∧
    (l.filters.length ≤ h → fetchFilterAncestors d n id = none) ∧
    (n > h → fetchFilterAncestors d n id = none) := by
  have hh : d.db.height? id = some h := hrep.idxPos h id hid
  refine ⟨fun hn hlt => ?_, fun hge => ?_, fun hn => ?_⟩
  · simp only [fetchFilterAncestors, hh, Nat.not_lt.mpr hn, if_false, hrep.fents, readRange_clean hlt (Nat.sub_le h n),
      Nat.sub_sub_self hn, Option.map_some]
  · have hs : readRange d.ff (h - n) h = none :=
      C07_short_file_read_fails d.ff (h - n) h (by rw [hrep.fents]; exact hge)
    by_cases hn : n > h
    · simp only [fetchFilterAncestors, hh, hn, if_true]
    · simp only [fetchFilterAncestors, hh, hn, if_false, hs, Option.map_none]
  · simp only [fetchFilterAncestors, hh, hn, if_true]

/-- a database written by an older version (entry 1 in the root bucket), extended by this one (entry 2) -/
example :
    let b : Buckets := { root := fun j => if j = 1 then some 1 else none,
                         sub := fun p => if p = 0 then some (fun j => if j = 2 then some 2 else none) else none }
    (b.get (fun j => j % 2) 1, b.get (fun j => j % 2) 2, b.get (fun j => j % 2) 3,
     (b.delEntries (fun j => j % 2) [1, 2]).map (fun b' => (b'.get (fun j => j % 2) 1, b'.get (fun j => j % 2) 2)),
     (b.delEntries (fun j => j % 2) [3]).isSome) =
    (some 1, some 2, none, some (none, none), false) := by rfl
example : locatorHeights 40 = [40, 39, 38, 37, 36, 35, 34, 33, 32, 31, 30, 28, 24, 16, 0] := by decide
example : fetchAncestors (exec init (.wb [1, 2, 3]) .none).1 2 3 = some (1, [1, 2, 3]) := by decide
example : ContractAll Log.init [.wb [1, 2, 3], .wf [1, 2], .rb 1, .rf, .rollto 1] := by
  simp only [ContractAll, Contract]; decide
example : (exec init (.wb [1, 2]) (.fault .shortwrite 0 100)).2 = .err := by decide
example : (exec init (.wb [1, 2]) (.fault .shortwrite 0 100)).1 = init := by decide
example : (exec init (.wb [1, 2]) (.fault .dberr 1 0)) = (init, .err) := by decide
/-- block store at height 3, filter store at 1: a range straddling the filter tip fails, one inside the file answers -/
example :
    let d := (exec (exec init (.wb [1, 2, 3]) .none).1 (.wf [1]) .none).1
    (fetchFilterAncestors d 2 3, fetchFilterAncestors d 1 3, fetchFilterAncestors d 1 1) = (none, none, some (0, [0, 1])) := by
  decide
example : (R.fin (writeBlocksSplit [1, 2] [stamped [1, 2] 1] { d := init, inj := .fault .dberr 1 0 })) = (init, .err) := by decide

end Neutrino.Store
