/-
C01 - tie of the first kind for the pure helpers of the header path: the functions below are
TRANSLATED from blockmanager.go / headerlist/header_list.go on every run (Gen/TransBM.lean) and proved
equal to the hand-model functions the C01 theorems are about, so that those theorems speak about the
functions the code defines now.
-/
import Neutrino.Props.C01
import Neutrino.Lemmas.TransBlockMgr
import Neutrino.Lemmas.TransHeaderList
namespace Neutrino.BM
open Neutrino.Gen.TransBM

/-- **`(*blockManager).findNextHeaderCheckpoint`** (as the code spells it today) is the model's
`findNextCp`, for every ascending checkpoint list with non-negative heights and every height ≥ 0. -/
theorem C01_trans_findNextHeaderCheckpoint (h : Int) (h0 : 0 ≤ h) (cps : List T_chaincfg_Checkpoint) (ok : CpsOkT cps) :
    (findNextHeaderCheckpoint h cps).map absCp = findNextCp (cps.map absCp) h.toNat :=
  trans_findNext h h0 cps ok

/-- **`(*blockManager).findPreviousHeaderCheckpoint`** is the model's `findPrevCp` (the genesis
hash is atom 0, as in the model) -/
theorem C01_trans_findPreviousHeaderCheckpoint (h : Int) (h0 : 0 ≤ h) (cps : List T_chaincfg_Checkpoint) (ok : CpsOkT cps) :
    (findPreviousHeaderCheckpoint h cps 0).map absCp = some (findPrevCp (cps.map absCp) h.toNat) :=
  trans_findPrev h h0 cps ok

/-- `CheckpointsPassed` (C01_checkpoints_passed) in terms of the code's own function: in every
reachable state of the machine configured with the code-level checkpoint list, `nextCheckpoint` is
what `findNextHeaderCheckpoint` returns for the stored tip height. -/
theorem C01_trans_checkpoints_passed (c : Cfg) (cps : List T_chaincfg_Checkpoint) (okT : CpsOkT cps)
    (hc : c.cps = cps.map absCp) (ok : CpsOk c.cps) (hw : 1 ≤ c.win) (peers : List Peer) (es : List Ev) :
    (run c (init c peers) es).ncp
      = (findNextHeaderCheckpoint ((tipHeight (run c (init c peers) es).log : Nat) : Int) cps).map absCp := by
  rw [C01_next_checkpoint_every_event c ok hw peers es, hc,
    C01_trans_findNextHeaderCheckpoint _ (Int.natCast_nonneg _) cps okT]
  simp

/-- **`headerlist.invertLowestOne` / `getAncestorHeight`** are the model's `lowOff` / `gah` (the
skip heights `C01_ancestor_correct` and `C01_headerlist_refines` are about) -/
theorem C01_trans_invertLowestOne (n : Nat) : invertLowestOne (n : Int) = ((HL.lowOff n : Nat) : Int) :=
  HL.trans_invertLowestOne n

theorem C01_trans_getAncestorHeight (h : Nat) : getAncestorHeight (h : Int) = ((HL.gah h : Nat) : Int) :=
  HL.trans_getAncestorHeight h

theorem C01_trans_getAncestorHeight_nonpos (h : Int) (h0 : h ≤ 0) : getAncestorHeight h = 0 :=
  HL.trans_getAncestorHeight_nonpos h h0

/-- **`areHeadersConnected`** (the link test `handleHeadersMsg` rejects unconnected batches with) is
the model's `linked` over the headers' ids, for every hashing under which no header is the all-zero
hash (the code's "not yet set" sentinel) and every table whose parent relation is `PrevBlock`. -/
theorem C01_trans_areHeadersConnected (t : Tbl) (hash : Option T_wire_BlockHeader → GoInt.Atom)
    (hs : List (Option T_wire_BlockHeader)) (hnz : ∀ h ∈ hs, hash h ≠ 0)
    (hp : ∀ b ∈ hs, t.parent (hash b) = some (GoInt.deref b).PrevBlock) :
    areHeadersConnected hs hash = linked t (hs.map hash) :=
  trans_areHeadersConnected t hash hs hnz hp

/-! the hypotheses are satisfiable, and the translated functions compute -/
example : areHeadersConnected [some { Version := 0, PrevBlock := 9, MerkleRoot := 0, Timestamp := 0, Bits := 0, Nonce := 1 },
    some { Version := 0, PrevBlock := 1, MerkleRoot := 0, Timestamp := 0, Bits := 0, Nonce := 2 },
    some { Version := 0, PrevBlock := 2, MerkleRoot := 0, Timestamp := 0, Bits := 0, Nonce := 3 }] (fun h => (GoInt.deref h).Nonce) = true := by decide +kernel
example : areHeadersConnected [some { Version := 0, PrevBlock := 9, MerkleRoot := 0, Timestamp := 0, Bits := 0, Nonce := 1 },
    some { Version := 0, PrevBlock := 7, MerkleRoot := 0, Timestamp := 0, Bits := 0, Nonce := 2 }] (fun h => (GoInt.deref h).Nonce) = false := by decide +kernel
def exCpsT : List T_chaincfg_Checkpoint := [⟨1, 1⟩, ⟨5, 7⟩, ⟨9, 3⟩]
example : CpsOkT exCpsT := ⟨by decide, by decide⟩
example : findNextHeaderCheckpoint 5 exCpsT = some ⟨9, 3⟩ := by decide +kernel
example : findNextHeaderCheckpoint 0 exCpsT = some ⟨1, 1⟩ := by decide +kernel
example : findNextHeaderCheckpoint 9 exCpsT = none := by decide +kernel
example : findPreviousHeaderCheckpoint 5 exCpsT 0 = some ⟨1, 1⟩ := by decide +kernel
example : findPreviousHeaderCheckpoint 6 exCpsT 0 = some ⟨5, 7⟩ := by decide +kernel
example : findPreviousHeaderCheckpoint 1 exCpsT 0 = some ⟨0, 0⟩ := by decide +kernel
example : exCfg.cps = [(⟨1, 1⟩ : T_chaincfg_Checkpoint)].map absCp := by decide +kernel
example : getAncestorHeight 12 = 0 ∧ getAncestorHeight 13 = 8 ∧ getAncestorHeight 7 = 4 := by decide +kernel

end Neutrino.BM
