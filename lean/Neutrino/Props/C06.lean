/-
C06 — a block is returned only if it is the requested, internally valid block.
Property theorems only; lemmas live in Neutrino/Lemmas/GetBlock.lean.

All theorems quantify over every stream of responses (`c.resps : List Resp`,
any peers, any order, any duplication), over a dispatcher that may or may not
stop after the first `Finished` (`c.cont`), over every dispatcher verdict, and
over every earlier history of calls (`past`) on a cache of any capacity.
-/
import Neutrino.Lemmas.GetBlock
import Neutrino.Gen.Query
namespace Neutrino.GetBlock
open Neutrino

/-- **Soundness.**  Whatever `GetBlock` returns — fresh from the network or from
the block cache, after any history of earlier calls — is a block that some peer
sent in answer to a request for this very hash (and encoding), that has the
requested header hash, passes the sanity check (hence reproduces the header's
merkle root) and has a valid witness commitment. -/
theorem C06_sound (cap : Nat) (past : List Call) (c : Call) (rid : Nat)
    (hwf : ∀ c' ∈ past ++ [c], ∀ r ∈ c'.resps, r.sane = true → r.merkle = true)
    (h : (getBlock (run (init cap) past) c).result = .ret rid) :
    ∃ c' ∈ past ++ [c], ∃ r ∈ c'.resps, c'.target = c.target ∧ c'.base = c.base ∧ r.rid = rid ∧
      r.isBlock = true ∧ r.hdr = c.target ∧ r.sane = true ∧ r.merkle = true ∧ r.wit = true := by
  obtain ⟨c', hc', r, hr, hk, hrid, hd⟩ := getBlock_ret_prov past _ c (run_cacheOk cap past) rid h
  obtain ⟨ht, hb⟩ := keyOf_inj hk
  obtain ⟨h1, h2, h3, h4⟩ := (decision_accept_iff _ _).mp hd
  exact ⟨c', hc', r, hr, ht, hb, hrid, h1, ht ▸ h2, h3, hwf c' hc' r hr h3, h4⟩

example : (getBlock (init 1000) (Call.mk 7 true false [⟨1, true, 5, 7, true, true, false, 300, 0⟩, ⟨2, true, 6, 7, true, true, true, 300, 0⟩] false .nil)).result = .ret 6 := by
  decide +kernel

/-- **Ban ⇔ bad block for the requested header.**  After a call that goes to
the network, a peer is in the ban store iff it was there before or one of the
responses the handler saw came from it, carried the requested header hash and
failed the sanity check or the witness-commitment check. -/
theorem C06_ban_iff (s : State) (c : Call) (hk : c.known = true)
    (hmiss : ∀ e ∈ s.cache.items, e.key ≠ keyOf c.target c.base) (p : Nat) :
    p ∈ (getBlock s c).st.bans ↔
      (p ∈ s.bans ∨ ∃ r ∈ seen c.cont c.target c.resps, r.peer = p ∧ r.isBlock = true ∧ r.hdr = c.target ∧
        (r.sane = false ∨ r.wit = false)) := by
  rw [getBlock_miss s c hk hmiss, afterQuery_bans, feed_bans]
  constructor
  · rintro (h | ⟨r, hr, hd, hp⟩)
    · exact Or.inl h
    · obtain ⟨h1, h2, h3⟩ := (decision_ban_iff _ _).mp hd
      exact Or.inr ⟨r, hr, hp, h1, h2, h3⟩
  · rintro (h | ⟨r, hr, hp, h1, h2, h3⟩)
    · exact Or.inl h
    · exact Or.inr ⟨r, hr, (decision_ban_iff _ _).mpr ⟨h1, h2, h3⟩, hp⟩

/-- a call answered from the cache or refused for an unknown header bans nobody -/
theorem C06_ban_only_by_handler (s : State) (c : Call) (h : (getBlock s c).queries = 0) :
    (getBlock s c).st.bans = s.bans := by
  rcases getBlock_cases s c with ⟨_, he⟩ | ⟨_, _, _, he⟩ | ⟨_, he⟩
  · rw [he]
  · rw [he]
  · rw [he, afterQuery_queries] at h
    cases h

example : (getBlock (init 1000) (Call.mk 7 true false [⟨1, true, 5, 7, true, true, false, 300, 0⟩, ⟨3, true, 9, 8, false, false, false, 300, 0⟩,
              ⟨2, true, 6, 7, true, true, true, 300, 0⟩] false .nil)).st.bans = [1] := by
  decide +kernel

/-- **Everything else is ignored.**  A response that is not a block, or is a
block with another header hash, changes nothing (no ban, nothing found, no
progress); and deleting all such responses from a stream does not change what
the handler leaves behind. -/
theorem C06_ignore_others (t : Nat) (h : HState) (r : Resp) (hr : r.isBlock = false ∨ r.hdr ≠ t) :
    handle t h r = (h, .none) ∧
    ∀ (cont : Bool) (rs : List Resp),
      (feed cont t h rs).1 = (feed cont t h (rs.filter (fun r => decide (decision t r ≠ .ignore)))).1 := by
  exact ⟨handle_ignore h ((decision_ignore_iff t r).mpr hr), fun cont rs => feed_ignores cont t rs h⟩

/-- **Retried with other peers.**  The dispatcher keeps handing responses to the
handler until the handler says `Finished` (`cont = false`: it stops there).  If
the header is known, nothing is cached under the key, the dispatcher reports
success, and the stream contains a valid requested block at all, then the call
returns the FIRST such block — however many responses before it were ignored or
got their senders banned: a bad answer never ends the request.  (The senders of
the bad answers before it are banned all the same, `C06_ban_iff`.) -/
theorem C06_retry_after_ban (s : State) (c : Call) (r : Resp) (hk : c.known = true)
    (hmiss : ∀ e ∈ s.cache.items, e.key ≠ keyOf c.target c.base)
    (hv : c.verdict = .nil) (hc : c.cont = false)
    (hr : c.resps.find? (fun x => decide (x.isBlock = true ∧ x.hdr = c.target ∧ x.sane = true ∧ x.wit = true)) = some r) :
    (getBlock s c).result = .ret r.rid := by
  have hr' : c.resps.find? (fun x => decide (decision c.target x = .accept)) = some r := by
    rw [← hr]; congr 1; funext x; simp only [decision_accept_iff]
  rw [getBlock_miss s c hk hmiss]
  unfold afterQuery
  simp only [hv, hc, feed_first_accept c.target c.resps r _ hr']

/-- three peers: the first sends the requested header with a forged witness
commitment (banned), the second another block (ignored), the third the valid
block: it is returned, and peer 1 is banned. -/
example : (getBlock (init 1000) (Call.mk 7 true false [⟨1, true, 5, 7, true, true, false, 300, 0⟩,
      ⟨2, true, 9, 8, true, true, true, 300, 0⟩, ⟨3, true, 6, 7, true, true, true, 300, 0⟩] false .nil)).result = .ret 6 ∧
    (getBlock (init 1000) (Call.mk 7 true false [⟨1, true, 5, 7, true, true, false, 300, 0⟩,
      ⟨2, true, 9, 8, true, true, true, 300, 0⟩, ⟨3, true, 6, 7, true, true, true, 300, 0⟩] false .nil)).st.bans = [1] := by
  decide +kernel

/-- **Identity is the header hash.**  A response whose header hash is not the
requested one is ignored whatever else it shares with the requested header — in
particular a re-mined sibling (`sib = t`: same parent, same merkle root, hence
the same transactions, sane, valid witness commitment, valid proof of work for
its own bits): nothing is found, nobody is banned, no progress is reported.  And
what the handler decides never depends on `sib` at all. -/
theorem C06_sibling_ignored (t : Nat) (h : HState) (r : Resp) (hr : r.hdr ≠ t) :
    decision t r = .ignore ∧ handle t h r = (h, .none) ∧
    ∀ (r' : Resp) (x : Nat), decision t { r' with sib := x } = decision t r' := by
  have hd : decision t r = .ignore := (decision_ignore_iff t r).mpr (Or.inr hr)
  exact ⟨hd, handle_ignore h hd, fun r' x => rfl⟩

/-- peers 1 and 2 answer a request for block 7 with re-mined siblings (header ids
140, 141; same parent and merkle root as 7; perfectly valid blocks): the call
fails, nobody is banned, nothing is cached.  With the genuine block after them
it is the genuine block that is returned. -/
example :
    (getBlock (init 1000) (Call.mk 7 true false [⟨1, true, 5, 140, true, true, true, 300, 7⟩,
      ⟨2, true, 6, 141, true, true, true, 300, 7⟩] false .nil)).result = .errNotFound ∧
    (getBlock (init 1000) (Call.mk 7 true false [⟨1, true, 5, 140, true, true, true, 300, 7⟩,
      ⟨2, true, 6, 141, true, true, true, 300, 7⟩] false .nil)).st.bans = [] ∧
    (getBlock (init 1000) (Call.mk 7 true false [⟨1, true, 5, 140, true, true, true, 300, 7⟩,
      ⟨2, true, 6, 141, true, true, true, 300, 7⟩] false .nil)).st.cache.items = [] ∧
    (getBlock (init 1000) (Call.mk 7 true false [⟨1, true, 5, 140, true, true, true, 300, 7⟩,
      ⟨3, true, 8, 7, true, true, true, 300, 7⟩] false .nil)).result = .ret 8 := by
  decide +kernel

/-- **Fail closed.**  If the cache has nothing under the key and no response of
the stream is the requested valid block, or the dispatcher does not report
success, the call reports failure — whatever else the peers sent — and the cache
is exactly what it was. -/
theorem C06_fail_closed (s : State) (c : Call)
    (hmiss : ∀ e ∈ s.cache.items, e.key ≠ keyOf c.target c.base)
    (hno : (∀ r ∈ c.resps, ¬ (r.isBlock = true ∧ r.hdr = c.target ∧ r.sane = true ∧ r.wit = true)) ∨
           c.verdict ≠ .nil ∨ c.known = false) :
    (getBlock s c).result.isRet = false ∧ (getBlock s c).st.cache = s.cache := by
  cases hk : c.known with
  | false => rw [getBlock_unknown s c hk]; exact ⟨rfl, rfl⟩
  | true =>
    rw [getBlock_miss s c hk hmiss]
    have hres : (afterQuery s c).result.isRet = false := by
      cases hr : (afterQuery s c).result with
      | ret rid =>
        obtain ⟨hv, r, hrs, hd, _, _⟩ := afterQuery_found s c rid hr
        rcases hno with hno | hno | hno
        · exact absurd ((decision_accept_iff _ _).mp hd) (hno r (seen_sub _ _ _ r hrs))
        · exact absurd hv hno
        · rw [hk] at hno; cases hno
      | _ => rfl
    exact ⟨hres, afterQuery_err_cache s c hres⟩

/-- **The cache is filled only after success**: a failed call leaves the set of
cached entries as it was, and a successful one adds at most the returned block
under the requested key. -/
theorem C06_cache_after_success (s : State) (c : Call) :
    ((getBlock s c).result.isRet = false → ∀ e, e ∈ (getBlock s c).st.cache.items → e ∈ s.cache.items) ∧
    (∀ rid, (getBlock s c).result = .ret rid → ∀ e, e ∈ (getBlock s c).st.cache.items →
        e ∈ s.cache.items ∨ (e.key = keyOf c.target c.base ∧ e.vid = rid)) := by
  rcases getBlock_cases s c with ⟨_, he⟩ | ⟨e, hmem, _, he⟩ | ⟨_, he⟩
  · rw [he]; exact ⟨fun _ e h => h, fun _ _ e h => Or.inl h⟩
  · rw [he]
    exact ⟨nofun, fun _ _ e' h => Or.inl (mem_erase_append hmem h)⟩
  · rw [he]
    constructor
    · intro h e hmem
      rw [afterQuery_err_cache s c h] at hmem
      exact hmem
    · intro rid hr e hmem
      obtain ⟨_, r, _, _, hrid, hcache⟩ := afterQuery_found s c rid hr
      rw [hcache] at hmem
      rcases spec_put_items e hmem with h1 | h1
      · exact Or.inl h1
      · subst h1; exact Or.inr ⟨rfl, hrid⟩

example : (getBlock (init 1000) (Call.mk 7 true false [⟨2, true, 6, 7, true, true, true, 300, 0⟩] true .err)).st.cache.items = [] := by
  decide +kernel

/-- the handler's answers line up with the responses it saw: `Finished` exactly
for the requested valid block -/
theorem C06_progress (t : Nat) (h : HState) (r : Resp) :
    (handle t h r).2 = .finished ↔ (r.isBlock = true ∧ r.hdr = t ∧ r.sane = true ∧ r.wit = true) := by
  rw [handle_progress, decision_accept_iff]

/-- **What the proofs rely on in query.go** (regenerated from the working tree on
every run): the handler tests message type, header hash, `CheckBlockSanity`,
`ValidateWitnessCommitment` in this order (the order of `decision`), the hash
mismatch branch only returns `noProgress`, both failure branches call
`BanPeer(peer, InvalidBlock)` and return `noProgress` without touching
`foundBlock`, `foundBlock` is assigned only after all of them, and the cache is
written only after the `foundBlock == nil` test. -/
theorem C06_source_facts :
    Gen.Query.getBlockSteps = ["reqtype", "type", "hash", "sanity", "witness", "found", "finish"] ∧
    Gen.Query.getBlock_typeGuardNoProgress = true ∧
    Gen.Query.getBlock_hashBans = false ∧ Gen.Query.getBlock_hashNoProgress = true ∧
    Gen.Query.getBlock_hashSetsFound = false ∧
    Gen.Query.getBlock_sanityBans = true ∧ Gen.Query.getBlock_sanityNoProgress = true ∧
    Gen.Query.getBlock_sanitySetsFound = false ∧
    Gen.Query.getBlock_witnessBans = true ∧ Gen.Query.getBlock_witnessNoProgress = true ∧
    Gen.Query.getBlock_witnessSetsFound = false ∧
    Gen.Query.getBlockCachePutAfterFoundCheck = true :=
  ⟨rfl, rfl, rfl, rfl, rfl, rfl, rfl, rfl, rfl, rfl, rfl, rfl⟩

end Neutrino.GetBlock
