/-
C08, header-import arm — a crash at any instant of a header import leaves the
header stores recoverable and un-torn.  The import's write phase is the sequence
of store operations `importOps` (Spec/ImportCrash.lean); lemmas in
Lemmas/ImportCrash.lean; everything rests on `C08_recover`.
-/
import Neutrino.Lemmas.ImportCrash
import Neutrino.Gen.Import
namespace Neutrino.Store

/-- **Any sequence of store operations, killed inside any one of them** (the
reorganisation and import arms are such sequences): see `ops_recover`. -/
theorem C08_sequence_recover (d : Durable) (l : Log) (ops : List Op) (i k torn : Nat) (op : Op)
    (hrep : Rep d l) (hc : ContractSeq l ops) (hop : ops[i]? = some op) :
    let r := exec (runSeq d (ops.take i)) op (.crash k torn)
    (r.2 = .crashed →
        ∃ d' lx, reopen r.1 = some d' ∧ Rep d' lx ∧ lx.filters.length ≤ lx.blocks.length ∧
          (match op with
           | .rollto _ => Between (applySeq l (ops.take i)) (applySeq l (ops.take (i + 1))) lx
           | _ => lx = applySeq l (ops.take i) ∨ lx = applySeq l (ops.take (i + 1)))) ∧
    (r.2 ≠ .crashed → Rep r.1 (applySeq l (ops.take (i + 1)))) :=
  ops_recover d l ops i k torn op hrep hc hop

/-- **Every crash point of a header import.**  `d` is any consistent durable
state (representing any log `l`); the import appends the new block ids `nb`
(distinct, not yet stored) and as many new filter-header ids `nf`, in batches of
`bs`, block batch then filter batch.  The process dies at durable step `k` of
the `i`-th store call of the import (file write after `torn` bytes, truncate,
or index transaction), the calls before it having completed.  Then the restart
succeeds, and the reopened stores represent exactly — nothing torn, shifted or
unreadable — the old contents plus WHOLE BATCHES of the new headers: `⌈j/2⌉`
block batches and `⌊j/2⌋` filter batches for `j = i` (the interrupted call left
no trace) or `j = i+1` (it is complete); the filter-header chain is not ahead of
the block-header chain, and at most one batch behind it. -/
theorem C08_import_recover (d : Durable) (l : Log) (bs : Nat) (nb nf : List Nat) (i k torn : Nat) (op : Op)
    (hbs : bs ≥ 1) (hrep : Rep d l) (hnd : nb.Nodup) (hfresh : ∀ x ∈ nb, x ∉ l.blocks) (hlen : nf.length = nb.length)
    (hop : (importOps bs nb.length nb nf)[i]? = some op) :
    let ops := importOps bs nb.length nb nf
    let r := exec (runSeq d (ops.take i)) op (.crash k torn)
    (r.2 = .crashed →
        ∃ d' lx j, reopen r.1 = some d' ∧ Rep d' lx ∧ (j = i ∨ j = i + 1) ∧
          lx = { blocks := l.blocks ++ nb.take (bs * ((j + 1) / 2)), filters := l.filters ++ nf.take (bs * (j / 2)) } ∧
          lx.filters.length ≤ lx.blocks.length ∧ lx.blocks.length ≤ lx.filters.length + bs +
            (l.blocks.length - l.filters.length)) ∧
    (r.2 ≠ .crashed →
        Rep r.1 { blocks := l.blocks ++ nb.take (bs * ((i + 2) / 2)), filters := l.filters ++ nf.take (bs * ((i + 1) / 2)) }) := by
  intro ops r
  have hshape := fun j => applySeq_importOps_take bs hbs nb.length l nb nf j (Nat.le_refl _) hlen
  have h := ops_recover d l ops i k torn op hrep
    (importOps_contract bs nb.length l nb nf hnd hfresh (Nat.le_of_eq hlen) hrep.fle) hop
  refine ⟨fun hcr => ?_, fun hn => hshape (i + 1) ▸ h.2 hn⟩
  obtain ⟨d', lx, h1, h2, h3, h4⟩ := h.1 hcr
  -- the import issues appends only: the recovered log is the one before or after the interrupted call
  obtain ⟨j, hj, rfl⟩ : ∃ j, (j = i ∨ j = i + 1) ∧ lx = applySeq l (ops.take j) := by
    rcases importOps_wbwf bs nb.length nb nf op (List.mem_of_getElem? hop) with ⟨ids, rfl⟩ | ⟨ids, rfl⟩ <;>
      exact h4.elim (fun e => ⟨i, .inl rfl, e⟩) fun e => ⟨i + 1, .inr rfl, e⟩
  rw [hshape j] at h2 h3
  refine ⟨d', _, j, h1, h2, hj, rfl, h3, ?_⟩
  simp only [List.length_append, List.length_take, hlen]
  exact batch_lag bs nb.length j _ _ hrep.fle

/-- the order of the import's store calls the model relies on, regenerated from
chainimport/headers_import.go on this run: per batch the block store is written
before the filter store (`writeHeadersToTargetStores`), and the loop moves on to
the next batch only after both (`batchStart = batchEnd + 1`). -/
theorem C08_import_source_shape :
    Gen.Import.writeOrder = ["block.WriteHeaders", "filter.WriteHeaders", "block.RollbackBlockHeaders"] ∧
    Gen.Import.loopNext = "batchEnd + 1" ∧ Gen.Import.rollbackInFilterFailure = true := ⟨rfl, rfl, rfl⟩

/-! Non-vacuity and the finding `import-crash-not-resumable` in the model: stores
at genesis, five new headers in batches of two; the process dies inside the
filter store's file write of the first batch (global step 2 = step 0 of the
second store call, 40 bytes written).  The restart succeeds, the block store
holds the first batch, the filter store does not — consistent, but the block
store is now AHEAD, the state from which the importer refuses every honest file
(`Neutrino.Import.C14_block_ahead_always_fails`). -/
example : importOps 2 5 [1, 2, 3, 4, 5] [1, 2, 3, 4, 5] =
    [.wb [1, 2], .wf [1, 2], .wb [3, 4], .wf [3, 4], .wb [5], .wf [5]] := rfl
example : (exec (runSeq init [.wb [1, 2]]) (.wf [1, 2]) (.crash 0 40)).2 = .crashed := rfl
example : (reopen (exec (runSeq init [.wb [1, 2]]) (.wf [1, 2]) (.crash 0 40)).1).map (fun d => (d.bf.ents, d.ff.ents)) =
    some ([0, 1, 2], [0]) := rfl
example : runCrash init (importOps 2 5 [1, 2, 3, 4, 5] [1, 2, 3, 4, 5]) 2 40 =
    ((exec (runSeq init [.wb [1, 2]]) (.wf [1, 2]) (.crash 0 40)).1, true) := rfl
example : Rep init Log.init ∧ [1, 2, 3, 4, 5].Nodup ∧ ∀ x ∈ [1, 2, 3, 4, 5], x ∉ Log.init.blocks := by
  refine ⟨rep_init, by decide, by decide⟩

end Neutrino.Store
