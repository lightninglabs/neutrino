/-
C15 — accepted transactions are rebroadcast in dependency order until confirmed;
the broadcast verdict; nothing blocks indefinitely.
-/
import Neutrino.Lemmas.PushTx
import Neutrino.Gen.PushTx
namespace Neutrino.PushTx
open Neutrino.Gen.PushTx

/-- **Included until confirmed.**  From ANY state: if `Broadcast(tx)` returned nil
(the network accepted the tx or already had it in its mempool), then whatever
happens afterwards (any events, any number of rebroadcasts, any results) as long as
`tx` is not reported confirmed, every rebroadcast that a later block event or tick
starts has `tx` in its snapshot. -/
theorem C15_included (s : State) (tx : Tx) (r : Res) (mid : List Op) (snap : List TxId)
    (hacc : (step s (.bcast tx r)).2 = .ok)
    (hmid : ∀ o ∈ mid, confirmsId tx.id o = false)
    (hstart : (step (run (step s (.bcast tx r)).1 mid) .trigger).2 = .started snap) :
    tx.id ∈ snap := by
  have h0 : tx.id ∈ ids (step s (.bcast tx r)).1.pending := by
    rw [step_bcast_ok s tx r hacc]
    exact mem_ids_insert.2 (.inl rfl)
  rw [((trigger_started _ snap).1 hstart).2.2.2]
  exact pending_kept_run mid _ tx.id h0 hmid

example : (step {} (.bcast ⟨1, [0]⟩ .mempool)).2 = .ok ∧
    (step (run (step {} (.bcast ⟨1, [0]⟩ .mempool)).1 [.bcast ⟨0, []⟩ .accepted, .trigger, .rbStep 0 .confirmed, .rbStep 1 .mempool]) .trigger).2
      = .started [1] := by decide +kernel

/-- a trigger while nothing is running and something is pending DOES start a rebroadcast of
exactly the pending set (so `C15_included` is not vacuous: `started` is the only possible answer) -/
theorem C15_trigger_starts (s : State) (hs : s.stopped = false) (hr : s.running = none) (hp : s.pending ≠ []) :
    (step s .trigger).2 = .started (ids s.pending) :=
  (trigger_started s _).2 ⟨hs, hr, hp, rfl⟩

/-- **Not after confirmation.**  Once the handler has processed a confirmation of `id`
(`MarkAsConfirmed`, or a rebroadcast answered "confirmed"), no rebroadcast started later
contains it — unless it is broadcast and accepted again. -/
theorem C15_not_after_confirm (s : State) (o : Op) (id : TxId) (mid : List Op) (snap : List TxId)
    (ho : o = .confirm id ∨ (o = .rbStep id .confirmed ∧ holds s id = true))
    (hs : s.stopped = false)
    (hmid : ∀ o' ∈ mid, acceptsId id o' = false)
    (hstart : (step (run (step s o).1 mid) .trigger).2 = .started snap) :
    id ∉ snap := by
  have h0 : (step s o).1.pending = remove id s.pending := by
    rcases ho with rfl | ⟨rfl, hh⟩
    · exact step_confirm s id hs
    · exact step_rbStep_confirmed s id hs hh
  rw [((trigger_started _ snap).1 hstart).2.2.2]
  exact absent_kept_run mid _ id (h0 ▸ not_mem_ids_remove id s.pending) hmid

example : (step (run (step (run {} [.bcast ⟨0, []⟩ .accepted, .bcast ⟨1, [0]⟩ .accepted]) (.confirm 0)).1 []) .trigger).2
    = .started [1] := by decide +kernel

/-- **A rejected transaction is never pending and never rebroadcast.**  If every broadcast
of `id` in a history was rejected (any error other than already-in-mempool, including
"confirmed"), then `id` is not in the handler's map, not in the running rebroadcast, and the
rebroadcast goroutine can never hand it to the network. -/
theorem C15_rejected_never_pending (ops : List Op) (id : TxId)
    (hrej : ∀ o ∈ ops, acceptsId id o = false) :
    id ∉ ids (run {} ops).pending ∧
    (∀ todo, (run {} ops).running = some todo → id ∉ ids todo) ∧
    (∀ r, (step (run {} ops) (.rbStep id r)).2 = .bad) ∧
    (∀ snap, (step (run {} ops) .trigger).2 = .started snap → id ∉ snap) := by
  have h : NoId id (run {} ops) := noId_run ops {} id ⟨nofun, nofun⟩ hrej
  refine ⟨h.1, h.2, fun r => congrArg Prod.snd (step_rbStep_not_held _ id r h.not_held), fun snap hst => ?_⟩
  rw [((trigger_started _ snap).1 hst).2.2.2]
  exact h.1

/-- a rejected broadcast changes nothing and does not return nil -/
theorem C15_rejected_is_noop (s : State) (tx : Tx) (r : Res) (hr : r.keeps = false) :
    (step s (.bcast tx r)).1 = s ∧ (step s (.bcast tx r)).2 ≠ .ok := by
  simp only [step, hr]
  cases s.stopped <;> simp

example : (∀ o ∈ [Op.bcast ⟨3, []⟩ .invalid, .bcast ⟨3, []⟩ .confirmed, .bcast ⟨4, [3]⟩ .accepted, .trigger],
    acceptsId 3 o = false) ∧ (run {} [Op.bcast ⟨3, []⟩ .invalid, .bcast ⟨3, []⟩ .confirmed, .bcast ⟨4, [3]⟩ .accepted, .trigger]).running
      = some [⟨4, [3]⟩] := by decide +kernel

/-- the rebroadcast hands only elements of its snapshot to the network, each at most once, and
reports `done` only when nothing is left -/
theorem C15_rebroadcast_walks_snapshot (s : State) (id : TxId) (r : Res) (hs : s.stopped = false)
    (hok : (step s (.rbStep id r)).2 ≠ .bad) :
    ∃ todo, s.running = some todo ∧ id ∈ ids todo ∧
      ((step s (.rbStep id r)).2 = .done → remove id todo = []) ∧
      (∀ rest, (step s (.rbStep id r)).1.running = some rest → rest = remove id todo ∧ id ∉ ids rest) := by
  obtain ⟨p, run, st, sc⟩ := s
  cases hs
  cases run with
  | none => exact absurd rfl hok
  | some todo =>
    revert hok
    dsimp only [step]
    cases hm : (ids todo).contains id
    · exact fun hok => absurd rfl hok
    · refine fun _ => ⟨todo, rfl, by simpa using hm, ?_⟩
      cases hrm : remove id todo with
      | nil => exact ⟨fun _ => rfl, fun _ h => nomatch h⟩
      | cons t ts =>
        refine ⟨Out.noConfusion, fun rest hrest => ?_⟩
        cases hrest
        exact ⟨rfl, hrm ▸ not_mem_ids_remove id todo⟩

/-- **Order.**  Soundness of the check the oracle applies to every observed rebroadcast
(`topoAux`, the contract of `wtxmgr.DependencySort`): if it accepts `order`, then for every
transaction in it, each parent that belongs to the same rebroadcast (`all`) was sent
strictly earlier (or had been sent before, `seen`). -/
theorem C15_order (all : List TxId) (order : List Tx) (seen : List TxId)
    (h : topoAux all seen order = true)
    (pre post : List Tx) (c : Tx) (hsplit : order = pre ++ c :: post)
    (p : TxId) (hp : p ∈ c.parents) (hall : p ∈ all) :
    p ∈ seen ∨ p ∈ ids pre := by
  subst hsplit
  induction pre generalizing seen with
  | nil =>
    simp only [List.nil_append, topoAux, Bool.and_eq_true, List.all_eq_true] at h
    have := h.1 p hp
    simp only [Bool.or_eq_true, List.contains_eq_mem, decide_eq_true_eq, Bool.not_eq_true', decide_eq_false_iff_not] at this
    exact this.elim .inl fun a => absurd hall a
  | cons q pre ih =>
    simp only [List.cons_append, topoAux, Bool.and_eq_true] at h
    rcases ih (q.id :: seen) h.2 with a | a
    · rcases List.mem_cons.mp a with rfl | a
      · exact .inr (List.mem_cons_self ..)
      · exact .inl a
    · exact .inr (List.mem_cons_of_mem _ a)

/-- the form used on a whole rebroadcast: parents inside the rebroadcast come first -/
theorem C15_order_whole (order pre post : List Tx) (c : Tx) (h : topoOk (ids order) order = true)
    (hsplit : order = pre ++ c :: post) (p : TxId) (hp : p ∈ c.parents) (hin : p ∈ ids order) :
    p ∈ ids pre := by
  rcases C15_order (ids order) order [] h pre post c hsplit p hp hin with a | a
  · cases a
  · exact a

example : topoOk [0, 1, 2] [⟨0, []⟩, ⟨2, [0, 7]⟩, ⟨1, [0, 2]⟩] = true ∧
          topoOk [0, 1, 2] [⟨0, []⟩, ⟨1, [0, 2]⟩, ⟨2, [0, 7]⟩] = false := by decide +kernel

/-- what `sendTransaction` has collected when `queryAllPeers` returns, for a sequence of peer
messages: the response handler as found in the source (`rejectRequiresReply`) -/
def collected (msgs : List PeerMsg) : Replies := collect rejectRequiresReply msgs

/-- **Verdict.**  For EVERY sequence of peer messages naming the transaction
(getdata and reject from any peers in any order, repeated, from peers that never asked for it,
sub-queries timing out at any point), every threshold, every tie-break order of the reject
codes: if `sendTransaction` returns an error, then every peer that replied (requested the
transaction) rejected it, or the share of the replying peers that called it invalid reached
the threshold. -/
theorem C15_verdict (num den : Nat) (iter : List Code) (msgs : List PeerMsg) (c : Code)
    (hv : verdict thresholdOp num den iter (collected msgs) = some c) :
    AllRepliersRejected (collected msgs) ∨ InvalidShareReached num den (collected msgs) :=
  have hinv := collInv_from msgs {} collInv_init
  verdict_sets thresholdOp (.inl rfl) num den iter (collect true msgs) hinv.sub hinv.nodup c hv

/-- what the response handler guarantees of the collected sets: every recorded rejection comes from a
peer that had requested the transaction, at most one per peer; and the sets mean what their names
say (a peer is a replier only through its own getdata, a rejecter only through its own reject). -/
theorem C15_rejecters_replied (msgs : List PeerMsg) :
    RejectersReplied (collected msgs) ∧ ((collected msgs).rejections.map (·.1)).Nodup ∧
    (∀ p ∈ (collected msgs).replies, PeerMsg.getdata p ∈ msgs) ∧
    (∀ x ∈ (collected msgs).rejections, PeerMsg.reject x.1 x.2 ∈ msgs) :=
  have hinv := collInv_from msgs {} collInv_init
  have ho := collect_origin true msgs {}
  ⟨hinv.sub, hinv.nodup, fun p hp => (ho.1 p hp).resolve_left List.not_mem_nil,
    fun x hx => (ho.2 x hx).resolve_left List.not_mem_nil⟩

/-- peer 1 requests the tx and accepts it silently, peer 2 never requests it but rejects it: the
broadcast succeeds; without the guard in the reject arm (`collect false`) the same messages make it
fail although no replier has rejected.
A reject that arrives BEFORE the same peer's getdata is ignored and the peer stays open, so its
later getdata and reject count. -/
example :
    verdict thresholdOp thresholdNum thresholdDen [.fee] (collected [.getdata 1, .reject 2 .fee]) = none ∧
    verdict thresholdOp thresholdNum thresholdDen [.fee] (collect false [.getdata 1, .reject 2 .fee]) = some .fee ∧
    ¬ AllRepliersRejected (collect false [.getdata 1, .reject 2 .fee]) ∧
    collected [.reject 3 .invalid, .getdata 3, .reject 3 .invalid, .getdata 3, .reject 3 .fee] = ⟨[3], [(3, .invalid)]⟩ := by
  refine ⟨by decide +kernel, by decide +kernel, ?_, by decide +kernel⟩
  intro h; have := h 1 (by decide); simp [collect, collectFrom, collectStep] at this

example : verdict thresholdOp thresholdNum thresholdDen [.invalid]
      (collected [.getdata 1, .getdata 2, .getdata 3, .reject 2 .invalid, .reject 3 .invalid, .reject 9 .invalid]) = some .invalid ∧
    InvalidShareReached thresholdNum thresholdDen
      (collected [.getdata 1, .getdata 2, .getdata 3, .reject 2 .invalid, .reject 3 .invalid, .reject 9 .invalid]) := by
  refine ⟨by decide +kernel, ?_⟩
  simp only [InvalidShareReached]
  decide

/-- **The threshold is honoured** (this is what `>` instead of `>=` breaks): with the
comparison found in the source, whenever some but not all repliers rejected and the invalid
count reaches `num/den` of the replies, the broadcast fails with the Invalid error. -/
theorem C15_verdict_threshold (num den : Nat) (iter : List Code) (q : Replies)
    (h0 : q.replies.length ≠ 0) (h1 : q.replies.length ≠ q.rejections.length) (h2 : q.rejections.length > 0)
    (hshare : countCode .invalid q.rejections * den ≥ num * q.replies.length) :
    verdict thresholdOp num den iter q = some .invalid := by
  have hop : thresholdOp = ">=" := rfl
  simp only [verdict, h0, h1, ↓reduceIte, hop, cmpOp]
  simp [h2, hshare]

/-- no reply at all is never a failure -/
theorem C15_verdict_no_reply (op : String) (num den : Nat) (iter : List Code) (rej : List (Nat × Code)) :
    verdict op num den iter ⟨[], rej⟩ = none := by
  simp [verdict]

/-- one blocking operation is acceptable when:
* in `Broadcast` / `MarkAsConfirmed` (the callers' side): its `select` has the `<-b.quit` case;
* in `Stop`: it is the `wg.Wait()` for the two goroutines below;
* in `broadcastHandler` / `rebroadcast` (what `Stop` waits for): its `select` has the quit
  case or a `default`, or the channel is created with a buffer that the protocol never
  overfills (the one-token semaphore, the one-answer error channel). -/
def siteOk : String × String × String × Bool × Bool × Bool → Bool
  | (fn, kind, _, quit, dflt, buf) =>
    if fn = "Broadcast" ∨ fn = "MarkAsConfirmed" then quit
    else if fn = "Stop" then kind = "wait"
    else quit || dflt || buf

/-- **Non-blocking.**  Every send/receive of `Broadcast`, `MarkAsConfirmed` has the quit
alternative, `Stop` only waits for goroutines all of whose blocking operations have it (or
cannot block), and the three methods are really there.  Re-proved against the regenerated
facts on every run: this is what the F8 repair establishes and what removing a quit case breaks. -/
theorem C15_nonblocking :
    sites.all siteOk = true ∧
    (sites.any fun x => x.1 = "Broadcast" ∧ x.2.1 = "send") = true ∧
    (sites.any fun x => x.1 = "MarkAsConfirmed" ∧ x.2.1 = "send" ∧ x.2.2.1 = "b.confChan") = true ∧
    (sites.any fun x => x.1 = "Stop" ∧ x.2.1 = "wait") = true := by decide +kernel

/-- model-level counterpart: after `Stop`, `Broadcast` and `MarkAsConfirmed` return at once
(with the stop error / without effect) and change nothing -/
theorem C15_after_stop_returns (s : State) (hs : s.stopped = true) (tx : Tx) (r : Res) (id : TxId) :
    step s (.bcast tx r) = (s, .stopped) ∧ step s (.confirm id) = (s, .ret) ∧ (step s .stop).2 = .ret := by
  simp [step, hs]

/-- the handler's spinning on the closed channel, removed from a history -/
def noSpin (ops : List Op) : List Op := ops.filter (fun o => o != .subSpin)

def noSpinOuts (s : State) : List Op → List Out
  | [] => []
  | o :: os => if o = .subSpin then noSpinOuts (step s o).1 os else (step s o).2 :: noSpinOuts (step s o).1 os

/-- **A closed block subscription is harmless.**  The arm of the handler's select for a closed
subscription channel ends in `continue` (source fact): the handler goes on serving its other arms.
Therefore, from ANY state and for EVERY history:
* however often the handler takes the closed-channel arm (`subSpin` anywhere in the history), the
  final state and every answer of the other events are exactly those of the history without it;
* the `subClosed` flag changes no answer and no other part of the state: after the closure every
  tick with something pending and no rebroadcast running still starts a rebroadcast of exactly the
  pending set, `Broadcast` is answered with the network's verdict and `MarkAsConfirmed` returns. -/
theorem C15_closed_subscription_harmless :
    closedSubArm = "continue" ∧
    (∀ (s : State) (ops : List Op), run s ops = run s (noSpin ops) ∧ noSpinOuts s ops = outs s (noSpin ops)) ∧
    (∀ (s : State) (o : Op), (step { s with subClosed := true } o).2 = (step s o).2 ∧
        (step { s with subClosed := true } o).1 = { (step s o).1 with subClosed := true }) ∧
    (∀ (s : State), (step s .closeSub).1.stopped = false → (step s .closeSub).1.running = none →
        (step s .closeSub).1.pending ≠ [] →
        (step (step s .closeSub).1 .trigger).2 = .started (ids s.pending)) ∧
    (∀ (s : State) (tx : Tx) (r : Res) (id : TxId), s.stopped = false →
        ((step (step s .closeSub).1 (.bcast tx r)).2 = .ok ∨ (step (step s .closeSub).1 (.bcast tx r)).2 = .err r) ∧
        (step (step s .closeSub).1 (.confirm id)).2 = .ret) := by
  refine ⟨rfl, ?_, ?_, ?_, ?_⟩
  · intro s ops
    induction ops generalizing s with
    | nil => exact ⟨rfl, rfl⟩
    | cons o os ih =>
      by_cases h : o = .subSpin
      · subst h; exact ih s
      · have hf : noSpin (o :: os) = o :: noSpin os := List.filter_cons_of_pos (by simpa using h)
        rw [hf]
        show run (step s o).1 os = run (step s o).1 (noSpin os) ∧
          (if o = .subSpin then _ else _) = (step s o).2 :: outs (step s o).1 (noSpin os)
        rw [if_neg h, (ih _).2]
        exact ⟨(ih _).1, rfl⟩
  · intro s o
    rw [step_subClosed]
    exact ⟨rfl, rfl⟩
  · intro s hs hr hp
    exact C15_trigger_starts (step s .closeSub).1 hs hr hp
  · intro s tx r id hs
    obtain ⟨p, run, st, sc⟩ := s
    cases hs
    refine ⟨?_, rfl⟩
    dsimp only [step]
    cases r.keeps
    · exact .inr rfl
    · exact .inl rfl

example : run {} [.bcast ⟨0, []⟩ .accepted, .closeSub, .subSpin, .subSpin, .trigger, .subSpin, .rbStep 0 .mempool, .subSpin, .trigger]
    = { pending := [⟨0, []⟩], running := some [⟨0, []⟩], subClosed := true } := by decide +kernel

/-- the source of interval ticks as the proofs need it: every path through the interval arm of the
handler's loop leaves it armed (regenerated; on the unchanged tree: a `time.Ticker` created once
before the loop, stopped only by the deferred `Stop`) -/
theorem C15_interval_source : intervalSrc.sound = true := by decide

/-- **Interval ticks keep coming.**  With the interval source as found in the source, in EVERY
state the Broadcaster can reach — after any history of broadcasts, confirmations, block events,
interval ticks (also ticks that found a rebroadcast still running), rebroadcast progress, a closed
subscription — the interval source is armed: the next interval elapsing IS delivered to the handler.
Hence (second part) whenever the handler runs, no rebroadcast is running and something is accepted
and not reported confirmed, that tick starts a rebroadcast of exactly the pending set; and (third
part) a history with ticks is a history of `step` with `trigger` in their place, so everything
proved above about "every later block event or tick" (`C15_included`, `C15_not_after_confirm`, …)
is about real ticks. -/
theorem C15_ticks_keep_coming (ops : List TOp) :
    let t := trun intervalSrc {} ops
    t.armed = true ∧
    (t.core.stopped = false → t.core.running = none → t.core.pending ≠ [] →
      (tstep intervalSrc t .tick).2 = .started (ids t.core.pending)) ∧
    t.core = run {} (ops.map TOp.toOp) := by
  intro t
  have h := trun_sound intervalSrc C15_interval_source ops {} rfl
  refine ⟨h.1, ?_, h.2⟩
  intro hs hr hp
  rw [(tstep_core intervalSrc t h.1 .tick).2]
  exact C15_trigger_starts t.core hs hr hp

/-- the same for ANY handler whose interval arm re-arms its source on every path (a one-shot timer
reset both when a rebroadcast is started and when one is found running is as good as a ticker) -/
theorem C15_ticks_keep_coming_general (iv : IntervalSrc) (hiv : iv.sound = true) (ops : List TOp) :
    (trun iv {} ops).armed = true ∧ (trun iv {} ops).core = run {} (ops.map TOp.toOp) :=
  trun_sound iv hiv ops {} rfl

/-- a one-shot timer that is re-armed only when a rebroadcast is actually started (the change of seeded/C15g-1) -/
def timerRearmedOnStart : IntervalSrc :=
  { periodic := false, tickRearmAcquired := true, tickRearmBusy := false, blockRearmAcquired := true, blockRearmBusy := false }

/-- **Counterexample for the one-shot source.**  Transaction 0 is accepted, a block event starts a
rebroadcast (and re-arms the timer), the interval elapses while that rebroadcast is still running
(the tick arm returns early and does NOT re-arm), the rebroadcast ends: the Broadcaster is running,
nothing is being rebroadcast, transaction 0 is accepted and unconfirmed — and the interval source is
dead: a tick can never happen again (`tick` is a no-op from here, whatever else happens short of a
block event), so the transaction is in no interval rebroadcast although it was never confirmed. -/
theorem C15_ticks_keep_coming_counterexample :
    let t := trun timerRearmedOnStart {}
      [.op (.bcast ⟨0, []⟩ .accepted), .op .trigger, .tick, .op (.rbStep 0 .mempool)]
    timerRearmedOnStart.sound = false ∧
    t.core.stopped = false ∧ t.core.running = none ∧ ids t.core.pending = [0] ∧ t.armed = false ∧
    tstep timerRearmedOnStart t .tick = (t, .noop) ∧
    (trun timerRearmedOnStart t [.tick, .op (.confirm 7), .tick, .op (.bcast ⟨1, [0]⟩ .accepted), .tick]).armed = false := by
  decide

/-- the ticker on the same history: armed, and the next tick rebroadcasts transaction 0 -/
example :
    let t := trun intervalSrc {}
      [.op (.bcast ⟨0, []⟩ .accepted), .op .trigger, .tick, .op (.rbStep 0 .mempool)]
    t.armed = true ∧ (tstep intervalSrc t .tick).2 = .started [0] := by decide +kernel

/-- **What the proofs rely on in the source** (a change here breaks this obligation):
the handler stores a tx only after the network's answer passed the Mempool test, deletes on
`confChan`, the rebroadcast walks `DependencySort` of its copy; the verdict computation has
exactly the four exits modelled by `verdict`, the threshold test is `>=` on
`rejectCodes[Invalid] / len(replies)`, the most-rejected loop uses `>`; the reject arm records
nothing for a peer that is not in `replies`, closes the peer after a recorded rejection, a getdata
entry makes its sender a replying peer whenever it names the transaction's hash (whatever tx inv
type it carries: `PeerMsg.getdata` has no type), and
`queryAllPeers` drops the messages of a closed peer. -/
theorem C15_source_shape :
    storeAfterResult = true ∧ handlerDeletesOnConf = true ∧ rebroadcastSorts = true ∧
    verdictPaths = [("len(replies) == 0", "nil"),
                    ("len(replies) == len(rejections)", "firstRejectWithCode(mostRejectedCode)"),
                    ("len(rejections) > 0 && numInvalid/numPeersResponded >= qo.invalidTxThreshold", "firstRejectWithCode(pushtx.Invalid)"),
                    ("", "nil")] ∧
    thresholdOp = ">=" ∧ thresholdLhs = "numInvalid / numPeersResponded" ∧ thresholdRhs = "qo.invalidTxThreshold" ∧
    numInvalidDef = "float32(rejectCodes[pushtx.Invalid])" ∧ numPeersRespondedDef = "float32(len(replies))" ∧
    mostRejectedCmp = "count > mostRejectedCount" ∧
    getdataMatch = "vec.Hash == txHash" ∧
    repliesKeyedByPeer = true ∧ rejectionsKeyedByPeer = true ∧
    rejectRequiresReply = true ∧ rejectClosesPeer = true ∧ closedPeerSkipped = true ∧
    thresholdNum * 5 = thresholdDen * 3 :=
  ⟨rfl, rfl, rfl, rfl, rfl, rfl, rfl, rfl, rfl, rfl, rfl, rfl, rfl, rfl, rfl, rfl, rfl⟩

def genRows : List ParseRow := parseTable.map fun (cs, sub, res) => { codes := cs, substr := sub, result := res }

/-- `ParseBroadcastError` decides which arm of the handler / of the rebroadcast a reject leads to.
Only a `RejectDuplicate` whose reason names the mempool / the chain can make a transaction
"already in mempool" (kept and rebroadcast) or "confirmed" (dropped); `RejectInvalid`,
`RejectNonstandard` are always Invalid and `RejectInsufficientFee` always InsufficientFee,
whatever the reason says. -/
theorem C15_parse_table :
    (genRows.all fun r => (r.result = "Mempool" ∨ r.result = "Confirmed") → (r.codes = ["RejectDuplicate"] ∧ r.substr.isSome)) = true ∧
    (∀ reason, parseWith genRows parseDefault "RejectInvalid" reason = "Invalid") ∧
    (∀ reason, parseWith genRows parseDefault "RejectNonstandard" reason = "Invalid") ∧
    (∀ reason, parseWith genRows parseDefault "RejectInsufficientFee" reason = "InsufficientFee") ∧
    parseWith genRows parseDefault "RejectDuplicate" "txn-already-in-mempool" = "Mempool" ∧
    parseWith genRows parseDefault "RejectDuplicate" "transaction already exists" = "Confirmed" ∧
    parseWith genRows parseDefault "RejectDuplicate" "nothing we know" = "Unknown" ∧
    parseWith genRows parseDefault "RejectMalformed" "txn-already-known" = "Unknown" := by
  exact ⟨by decide +kernel, fun _ => rfl, fun _ => rfl, fun _ => rfl, by decide +kernel⟩

end Neutrino.PushTx
