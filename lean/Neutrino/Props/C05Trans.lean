/-
C05 - `prepareCFiltersQuery` as the CODE defines it (translated from query.go on every run,
Gen/TransQuery.lean) against the model's range arithmetic `rangeOf` / `prepare`, which `C05_range`,
`C05_no_query_above_tip` and `C05_index_aligned` are about.  The store lookups
(`BlockHeaders.FetchHeader`, `BestBlock`, `GetBlockHash`, the two `FetchHeaderAncestors`) are
function parameters of the translated definition, so the theorems also say what the stores are
asked for.
-/
import Neutrino.Props.C05
import Neutrino.Lemmas.TransGetCFilter
namespace Neutrino.GetCFilter
open Neutrino.Gen.TransQuery Neutrino.GoInt

section
variable (blockHash : Atom) (ft bt : Nat) (mb : Int) (self : Atom) (f1 : T_wire_BlockHeader → Atom)
  (f2 : Option T_headerfs_BlockStamp × Bool) (f3 : Atom → Option T_wire_BlockHeader × Nat × Bool)
  (f4 : Nat → Atom → List T_wire_BlockHeader × Nat × Bool) (f5 : Int → Atom × Bool)
  (f6 : Nat → Atom → List Atom × Nat × Bool)

/-- **The range a prepared query covers is the model's `rangeOf`, and the stores are asked for
exactly that range** - every batch type, every batch size, whatever the stores answer. -/
theorem C05_trans_prepareCFiltersQuery (q : T_neutrino_cfiltersQuery)
    (h : prepareCFiltersQuery blockHash ft bt mb self f1 f2 f3 f4 f5 f6 = (some q, false)) :
    (f3 blockHash).2.2 = false ∧ f2.2 = false ∧ ((f3 blockHash).2.1 : Int) ≤ (deref f2.1).Height ∧
    ∃ b, absBatch bt = some b ∧
      (q.startHeight, q.stopHeight) = rangeOf (((f3 blockHash).2.1 : Int)) (deref f2.1).Height b mb ∧
      (f5 q.stopHeight) = (q.stopHash, false) ∧
      (f4 (toU 32 (q.stopHeight - q.startHeight + 1)) q.stopHash).2.2 = false ∧
      len (f4 (toU 32 (q.stopHeight - q.startHeight + 1)) q.stopHash).1
        = ((toU 32 (q.stopHeight - q.startHeight + 1) : Nat) : Int) + 1 ∧
      (f6 (toU 32 (q.stopHeight - q.startHeight + 1)) q.stopHash).2.2 = false ∧
      q.filterHeaders = (f6 (toU 32 (q.stopHeight - q.startHeight + 1)) q.stopHash).1 ∧
      len q.filterHeaders = ((toU 32 (q.stopHeight - q.startHeight + 1) : Nat) : Int) + 1 ∧
      q.headerIndex = prepareCFiltersQuery_loop1 f1 (f4 (toU 32 (q.stopHeight - q.startHeight + 1)) q.stopHash).1
        (rangeUp 1 (len (f4 (toU 32 (q.stopHeight - q.startHeight + 1)) q.stopHash).1)) [] ∧
      q.targetHash = blockHash ∧ q.filterType = ft ∧ q.cs = self :=
  trans_prepare_ok blockHash ft bt mb self f1 f2 f3 f4 f5 f6 q h

/-- `C05_range` for the code's own function: a prepared query for a block of height ≥ 1 covers the
target, stays within [1, best], and is no longer than the limit (and than a requested batch size) -/
theorem C05_trans_range (q : T_neutrino_cfiltersQuery)
    (h : prepareCFiltersQuery blockHash ft bt mb self f1 f2 f3 f4 f5 f6 = (some q, false))
    (h1 : 1 ≤ (f3 blockHash).2.1) :
    1 ≤ q.startHeight ∧ q.startHeight ≤ ((f3 blockHash).2.1 : Int) ∧ ((f3 blockHash).2.1 : Int) ≤ q.stopHeight ∧
    q.stopHeight ≤ (deref f2.1).Height ∧ q.stopHeight - q.startHeight + 1 ≤ maxRange ∧
    (0 < mb ∧ mb < maxRange → q.stopHeight - q.startHeight + 1 ≤ mb) := by
  obtain ⟨_, _, hle, b, _, hr, _⟩ := C05_trans_prepareCFiltersQuery blockHash ft bt mb self f1 f2 f3 f4 f5 f6 q h
  have hs := rangeOf_spec (f3 blockHash).2.1 (deref f2.1).Height b mb (Int.ofNat_le.mpr h1) hle
  rwa [← hr] at hs

/-- **No query above the filter-header tip, in the code's own words** (the repair behind
`C05_no_query_above_tip`): a block above the best filter-header height never yields a query. -/
theorem C05_trans_no_query_above_tip (herr1 : (f3 blockHash).2.2 = false) (herr2 : f2.2 = false)
    (h : (deref f2.1).Height < ((f3 blockHash).2.1 : Int)) :
    prepareCFiltersQuery blockHash ft bt mb self f1 f2 f3 f4 f5 f6 = (none, true) :=
  trans_prepare_above_tip blockHash ft bt mb self f1 f2 f3 f4 f5 f6 herr1 herr2 h

/-- a failing header or best-block lookup fails the preparation (fail closed) -/
theorem C05_trans_lookup_error (h : (f3 blockHash).2.2 = true ∨ f2.2 = true) :
    prepareCFiltersQuery blockHash ft bt mb self f1 f2 f3 f4 f5 f6 = (none, true) :=
  trans_prepare_lookup_err blockHash ft bt mb self f1 f2 f3 f4 f5 f6 h
end

/-- **The header index of a prepared query** (the loop over `blockHeaders[1 …]`): it holds exactly
the hashes of the awaited blocks, and the position it stores for a hash is a position of the private
header slice, at or after 1, that holds this very hash - the code-level fact `C05_index_aligned`
needs (a response naming block `b` is checked against the headers at `b`'s own position). -/
theorem C05_trans_headerIndex (f1 : T_wire_BlockHeader → Atom) (bhs : List T_wire_BlockHeader) (k : Atom) :
    let ix := prepareCFiltersQuery_loop1 f1 bhs (rangeUp 1 (len bhs)) []
    (mhas ix k = true ↔ ∃ i : Int, 1 ≤ i ∧ i < len bhs ∧ f1 (idx bhs i) = k) ∧
    (mhas ix k = true → 1 ≤ mlookup ix k ∧ mlookup ix k < len bhs ∧ f1 (idx bhs (mlookup ix k)) = k) :=
  trans_headerIndex f1 bhs k

/-! the hypotheses are satisfiable: a chain of 6 blocks (headers 0..5 with hash = height + 100),
target at height 3, forward batch of 2 -/
def exHdr (i : Nat) : T_wire_BlockHeader := { Version := 0, PrevBlock := 0, MerkleRoot := 0, Timestamp := 0, Bits := 0, Nonce := i }
def exAnc (n : Nat) (stop : Atom) : List T_wire_BlockHeader × Nat × Bool :=
  (((List.range (n + 1)).map (fun k => exHdr (stop - 100 - n + k))), 0, false)
def exFAnc (n : Nat) (stop : Atom) : List Atom × Nat × Bool :=
  (((List.range (n + 1)).map (fun k => 200 + (stop - 100 - n + k))), 0, false)
example : (prepareCFiltersQuery 103 0 K_neutrino_forwardBatch 2 7 (fun h => h.Nonce + 100)
    (some { Height := 5, Hash := 105, Timestamp := 0 }, false) (fun h => (none, h - 100, false))
    exAnc (fun h => (h.toNat + 100, false)) exFAnc).1.map (fun q => (q.startHeight, q.stopHeight, q.filterHeaders, q.headerIndex))
    = some ((3 : Int), (4 : Int), ([202, 203, 204] : List Nat), ([(104, 2), (103, 1)] : List (Nat × Int))) := by decide +kernel

end Neutrino.GetCFilter
