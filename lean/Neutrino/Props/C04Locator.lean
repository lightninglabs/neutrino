/-
C04 — "… eventually reports that chain's tip … and keeps doing so as that chain grows or
REORGANISES": the request the client sends after a block announcement has to make progress
(Model/Locator.lean), and a checkpoint mismatch has to discard the whole failing branch.

* `C04_request_progress`: for EVERY locator, peer chain, fork point and batch size: if the first
  locator entry on the peer's chain lies less than one batch below the fork point and the peer
  has blocks above the fork point, the answer contains at least one header the client does not
  have.  `C04_request_reaches_tip`: if what is missing fits one batch, the answer ends at the
  peer's tip.
* `C04_inv_locator_progress`: the locator of `handleInvMsg` (in-memory tip, then the store's
  locator) makes progress whenever the STORE's locator alone would - the in-memory tip not being
  on the peer's chain (it was reorganised away) costs nothing.
* `C04_tip_only_locator_stalls`: a locator whose entries are all off the peer's chain (the tip
  alone after a re-anchor, once the honest side has reorganised it away) is answered from
  genesis; on a chain whose fork point lies a batch or more above genesis the answer is all
  known headers: nothing is learned, for every peer height.  This is the region the `bm-sync`
  scenarios `inv-after-*` drive on the real handlers (oracle clause `request-learns-nothing`).
* `C04_mismatch_rollback_target`: in the model of `handleHeadersMsg` (Model/BlockMgr.lean) the
  checkpoint-mismatch arm leaves at most the previous checkpoint's height in the store, for
  every state, whoever served which part of the failing branch.
-/
import Neutrino.Lemmas.Locator
import Neutrino.Lemmas.BlockMgr
namespace Neutrino.Locator

theorem C04_request_progress (loc : List (Option Nat)) (batch ph fork a : Nat)
    (hfirst : firstOn loc = some a) (ha : a ≤ fork) (hnear : fork < a + batch) (hahead : fork < ph) :
    0 < newCount batch ph fork loc := by
  rw [newCount_of_firstOn batch ph hfirst ha, ← Nat.add_min_add_left]
  exact Nat.sub_pos_of_lt (Nat.lt_min.mpr ⟨hnear, by omega⟩)

theorem C04_request_reaches_tip (loc : List (Option Nat)) (batch ph a : Nat)
    (hfirst : firstOn loc = some a) (hfit : ph < a + 1 + batch) (hle : a ≤ ph) :
    startOf loc + count batch ph (startOf loc) = ph + 1 := by
  rw [count_of_firstOn batch ph hfirst, startOf_of_firstOn hfirst, Nat.min_eq_right (by omega)]
  omega

/-- the in-memory tip in front of the store's locator never hurts: if it is off the peer's chain the
answer is the one the store's locator gets -/
theorem C04_inv_locator_off_chain_tip (storeLoc : List (Option Nat)) (batch ph fork : Nat) :
    newCount batch ph fork (invLocator none storeLoc) = newCount batch ph fork storeLoc := rfl

theorem C04_inv_locator_progress (memTip : Option Nat) (storeLoc : List (Option Nat)) (batch ph fork a : Nat)
    (hmem : ∀ t, memTip = some t → t ≤ fork ∧ fork < t + batch)
    (hfirst : firstOn storeLoc = some a) (ha : a ≤ fork) (hnear : fork < a + batch) (hahead : fork < ph) :
    0 < newCount batch ph fork (invLocator memTip storeLoc) := by
  cases memTip with
  | none => exact C04_request_progress storeLoc batch ph fork a hfirst ha hnear hahead
  | some t =>
    obtain ⟨h1, h2⟩ := hmem t rfl
    exact C04_request_progress (invLocator (some t) storeLoc) batch ph fork t rfl h1 h2 hahead

/-- hypotheses satisfiable: tip 2006 reorganised away (fork 2005), store locator reaches 2005 -/
example : 0 < newCount 2000 2007 2005 (invLocator none [none, some 2005, some 2004, some 0]) :=
  C04_inv_locator_progress none _ 2000 2007 2005 2005 (by intro t h; cases h) rfl (by omega) (by omega) (by omega)

theorem C04_tip_only_locator_stalls (loc : List (Option Nat)) (batch ph fork : Nat)
    (hoff : firstOn loc = none) (hdeep : batch ≤ fork) :
    newCount batch ph fork loc = 0 := by
  rw [newCount_of_firstOn_none batch ph fork hoff]
  exact Nat.sub_eq_zero_of_le (Nat.le_trans (Nat.min_le_left _ _) hdeep)

example : newCount 2000 2007 2005 [none] = 0 := C04_tip_only_locator_stalls [none] 2000 2007 2005 rfl (by omega)

end Neutrino.Locator

namespace Neutrino.BM

/-- **Checkpoint mismatch discards the whole failing branch**: whatever the state (whoever is sync peer,
whatever it and earlier peers delivered), after `rollBackTo (previous checkpoint)` the stored tip is at or
below the previous checkpoint. -/
theorem C04_mismatch_rollback_target (c : Cfg) (s : State) (nodeHeight : Nat) :
    tipHeight (s.rollBackTo (findPrevCp c.cps nodeHeight).height).1.log ≤ (findPrevCp c.cps nodeHeight).height := by
  rw [rollBackTo_log, tipHeight, List.length_take]
  omega

end Neutrino.BM
