/-
C12 — each query batch gets exactly one verdict; success means all answered.
Namespace `Disp`: the dispatcher (query/workmanager.go `workDispatcher`, `Query`;
peer_rank.go); namespace `Wrk`: the worker loop (query/worker.go `Run`).
-/
import Neutrino.Spec.Dispatcher
import Neutrino.Lemmas.Dispatcher
import Neutrino.Lemmas.DispatcherLate
import Neutrino.Lemmas.DispatcherRank
import Neutrino.Lemmas.Worker
import Neutrino.Gen.Worker
import Neutrino.Gen.Dispatcher
namespace Neutrino.Disp

/-- The facts regenerated from query/*.go on this run that the model and the
proofs rely on: the timeout/retry/score constants; every send on a batch's
result channel inside the dispatcher loop is followed by
`delete(currentBatches, …)` in the same block, the only other send in
`workDispatcher` is in its exit `defer`; the channel has capacity 1; a failed
job is pushed back as the same object (same index); the queue orders by index;
the ranking orders by ascending score; every select that offers a job on a worker's `NewJob()`
channel is blocking (none has a `default` arm: the dispatcher stays with the
worker it is offering the job to until that worker takes it, exits, or the work
manager quits); nothing in peer_rank.go can remove an entry from the score map
(no `delete`, no `clear`, the map is never re-assigned). -/
theorem C12_source_facts :
    Gen.Dispatcher.minQueryTimeoutSec = 2 ∧ Gen.Dispatcher.maxQueryTimeoutSec = 32 ∧
    Gen.Dispatcher.defaultNumRetries = 2 ∧
    Gen.Dispatcher.bestScore = 0 ∧ Gen.Dispatcher.defaultScore = 4 ∧ Gen.Dispatcher.worstScore = 8 ∧
    Gen.Dispatcher.verdictSends = 5 ∧ Gen.Dispatcher.verdictSendsFollowedByDelete = 5 ∧
    Gen.Dispatcher.shutdownSendsInDefer = 1 ∧ Gen.Dispatcher.errChanCapOne = true ∧
    Gen.Dispatcher.requeueSameJob = true ∧ Gen.Dispatcher.heapPushes = 2 ∧
    Gen.Dispatcher.queueOrderedByIndex = true ∧ Gen.Dispatcher.orderAscendingScore = true ∧
    1 ≤ Gen.Dispatcher.jobOfferSelects ∧ Gen.Dispatcher.jobOfferSelectsWithDefault = 0 ∧
    Gen.Dispatcher.rankRemovals = 0 := by decide +kernel

/-- number of verdicts written to batch `b`'s result channel so far -/
def verdictCount (s : State) (b : Nat) : Nat := (s.verdicts.filter (fun x => x.1 == b)).length

/-- **At most one verdict** — for every event list (any interleaving of new
batches, peers connecting, workers accepting, results of every kind, idle-timer
wakes fresh or stale, hard deadlines passing, workers exiting, shutdown, late
submissions) and every batch number, the batch's result channel is written at
most once.  The channel has capacity 1 (`C12_source_facts`), so this is also
"a finished batch never blocks the dispatcher". -/
theorem C12_at_most_once (es : List Ev) (b : Nat) : verdictCount (run init es) b ≤ 1 :=
  (inv_run init es KW_init invA_init).2.verdicts_le_one b

/-- **Exactly one verdict once the dispatcher was stopped** — after any event
list containing `quit`, every batch ever submitted (batch numbers are
`0 … nextBatch-1`, including batches submitted after the stop) has exactly one
verdict. -/
theorem C12_exactly_once_on_quit (es : List Ev) (hq : Ev.quit ∈ es) (b : Nat)
    (hb : b < (run init es).nextBatch) : verdictCount (run init es) b = 1 :=
  (inv_run init es KW_init invA_init).2.verdicts_eq_one (run_quit_of_mem init es hq) hb

/-- every `newBatch` event, before or after shutdown, takes the next batch number -/
theorem C12_batch_numbers (s : State) (n : Nat) (nrm : Bool) (mr : Nat) (pr hn : Bool)
    (h : offering s = false ∨ s.quit = true) :
    (step s (.newBatch n nrm mr pr hn)).1.nextBatch = s.nextBatch + 1 := by
  rw [step_newBatch h]
  cases s.quit <;> rfl

/-- **Ranking** — whenever the dispatcher hands out a job, it is the head of
the queue and goes to a worker that is free, still running, and whose score no
free worker beats: minimal among ALL free running workers (`freeLive`: no
active job by the dispatcher's bookkeeping, `Run` not returned), whether or not
they are receiving on their job channel at that moment — being at the channel
is not part of the state the hand-out looks at (`C12_rank_waits_for_best` makes
the not-yet-receiving workers explicit). -/
theorem C12_rank (s : State) (p idx tries to : Nat)
    (h : (step s (.accept p)).2 = [.dispatched p idx tries to]) :
    bestFree s p = true ∧ ∃ job rest, s.work = job :: rest ∧ job.idx = idx ∧
      (∀ q ∈ freeLive s, scoreOf s.rank p ≤ scoreOf s.rank q.addr) := by
  cases hq : s.quit with
  | true => rw [step_of_quit hq] at h; cases h
  | false =>
    rw [step_accept hq] at h
    revert h
    refine stepAccept_cases (fun r => r.2 = _ → _) (fun h => nomatch h) fun job rest hw hb h => ?_
    cases h
    exact ⟨hb, job, rest, hw, rfl, (bestFree_iff.mp hb).2⟩

/-- **The dispatcher waits for the best-ranked free worker** — the offer loop
over any list `Order` may produce in state `s` (`RankedFree`), for EVERY
assignment `fate` of what each free worker does while the job is on offer:
take it at once (`takes 0`: it is receiving on its job channel), take it later
(`takes (n+1)`: free by the bookkeeping but not yet back at its channel — a real
worker that has just delivered a result), or exit.  The worker `p` that ends up
with the job does not exit, everything ranked ahead of it exited, and no free
running worker that stays — receiving or not — has a strictly better score.  In
particular a worse-ranked worker that is already waiting at its channel never
gets the job while a better-ranked free one is merely not there yet. -/
theorem C12_rank_waits_for_best (s : State) (fate : Nat → Fate) (l : List Nat) (p : Nat)
    (hl : RankedFree s fate l) (h : offerLoop fate l = some p) :
    fate p ≠ .exits ∧
    (∃ pre post, l = pre ++ p :: post ∧ ∀ q ∈ pre, fate q = .exits) ∧
    (∀ w ∈ freeLive s, fate w.addr ≠ .exits → scoreOf s.rank p ≤ scoreOf s.rank w.addr) ∧
    (∀ w ∈ freeLive s, ∀ n, fate w.addr = .takes (n + 1) → scoreOf s.rank p ≤ scoreOf s.rank w.addr) := by
  have hs := offerLoop_spec fate l p h
  have hm := offerLoop_minimal s.rank fate l p hl.sorted h
  exact ⟨hs.1, hs.2, fun w hw hne => hm w.addr (hl.all w hw) hne,
    fun w hw n hn => hm w.addr (hl.all w hw) (hn ▸ fun c => nomatch c)⟩

/-- **… and that is the model's `accept`** — once the exits the loop saw have
happened (as `exit` events), the worker the loop picks is a best-ranked free
running worker of the resulting state, so `accept p` is enabled there and hands
out the head of the queue: `offerLoop` refines the dispatcher model's
scheduling, it adds no behaviour. -/
theorem C12_offer_is_accept (s : State) (hq : s.quit = false) (fate : Nat → Fate) (l : List Nat) (p : Nat)
    (hl : RankedFree s fate l) (h : offerLoop fate l = some p) :
    let s' := run s ((l.filter (fun q => fate q == .exits)).map Ev.exit)
    bestFree s' p = true ∧
    ∀ job rest, s.work = job :: rest →
      (step s' (.accept p)).2 = [.dispatched p job.idx job.tries job.timeout] := by
  intro s'
  obtain ⟨hfree, hquit, hrank, hwork⟩ := run_exits s (l.filter (fun q => fate q == .exits)) hq
  have hs := offerLoop_spec fate l p h
  have hm := offerLoop_minimal s.rank fate l p hl.sorted h
  have hpl : p ∈ l := by
    obtain ⟨pre, post, e, _⟩ := hs.2
    exact e ▸ List.mem_append_right _ List.mem_cons_self
  have hstays {q : Nat} : (!(l.filter (fun q => fate q == .exits)).contains q) = true ↔ (q ∈ l → fate q ≠ .exits) := by
    rw [Bool.not_eq_true', List.contains_eq_mem, decide_eq_false_iff_not, List.mem_filter, beq_iff_eq, not_and]
  have hbest : bestFree s' p = true := by
    rw [bestFree_iff, show freeLive s' = _ from hfree, show s'.rank = _ from hrank]
    obtain ⟨w, hw, hwp⟩ := List.any_eq_true.mp (hl.live p hpl hs.1)
    refine ⟨⟨w, List.mem_filter.mpr ⟨hw, beq_iff_eq.mp hwp ▸ hstays.mpr fun _ => hs.1⟩, beq_iff_eq.mp hwp⟩, fun w hw => ?_⟩
    obtain ⟨hw, hnot⟩ := List.mem_filter.mp hw
    exact hm w.addr (hl.all w hw) (hstays.mp hnot (hl.all w hw))
  refine ⟨hbest, fun job rest hw => ?_⟩
  rw [step_accept (hquit : s'.quit = false), stepAccept_cons (hwork.trans hw : s'.work = _), if_pos hbest]

/-- What the statement rules out: a first non-blocking pass over the ranked list
("give it to whoever takes it right away") hands the job to a worse-ranked
worker whenever the best-ranked free one is momentarily not receiving. -/
theorem C12_eager_offer_counterexample :
    let s := run init [.peer 1, .peer 2, .newBatch 2 true 0 false false, .accept 1, .accept 2, .result 1 .ok, .result 2 .other]
    let fate : Nat → Fate := fun q => if q = 1 then .takes 1 else .takes 0
    scoreOf s.rank 1 = 3 ∧ scoreOf s.rank 2 = 5 ∧
    offerLoop fate [1, 2] = some 1 ∧ offerLoopEager fate [1, 2] = some 2 := by decide +kernel

/-- **A record survives peer churn (1): the ranking itself** — ranking calls
that name other addresses — any number of `AddPeer` for peers that come and go,
and their rewards, punishments and resets — leave a peer's entry exactly as it
was: still known (so `Reward` / `Punish` keep applying to it), same score. -/
theorem C12_rank_survives_churn (r : List (Nat × Nat)) (ops : List RankOp) (p : Nat)
    (h : ∀ o ∈ ops, o.addr ≠ p) :
    (rankRun r ops).lookup p = r.lookup p ∧ scoreOf (rankRun r ops) p = scoreOf r p := by
  have hl : (rankRun r ops).lookup p = r.lookup p := by
    rw [lookup_rankRun, List.filter_eq_nil_iff.mpr fun o ho => mt beq_iff_eq.mp (h o ho)]; rfl
  exact ⟨hl, congrArg (fun x : Option Nat => x.getD Gen.Dispatcher.defaultScore) hl⟩

/-- … so after any history the score of `p` is a function of the calls that name
`p` alone — exactly the score the driver's oracle computes from `p`'s own
history (`ownScore`), whatever else the ranking was told in between; and
`Order` compares these. -/
theorem C12_rank_own_history (hist : List RankOp) (p : Nat) :
    scoreOf (rankRun [] hist) p = ownScore hist p := by
  rw [scoreOf, lookup_rankRun]; rfl

/-- **A record survives peer churn (2): the dispatcher** — in EVERY state, an
event that is not a result reported by `p` itself leaves `p`'s score where it
was: peers connecting (new addresses, or `p`'s own address again), workers
exiting, batches, wakes, deadlines, hand-outs, other peers' results, shutdown.
Hence for every event list without a result from `p` — any amount of peer
churn — `p` is ranked as before. -/
theorem C12_record_persists (s : State) (es : List Ev) (p : Nat)
    (h : ∀ e ∈ es, ∀ err, e ≠ .result p err) :
    scoreOf (run s es).rank p = scoreOf s.rank p := by
  induction es generalizing s with
  | nil => rfl
  | cons e es ih =>
    simp only [run]
    rw [ih _ (fun e' he' => h e' (List.mem_cons_of_mem _ he'))]
    exact step_scoreOf_other s e p (h e List.mem_cons_self)

/-- What the statement rules out: were `AddPeer` to make room by dropping some
other address's entry (a ranking bounded by eviction), a connected peer's
earned score would silently fall back to the default. -/
theorem C12_evicting_ranking_counterexample :
    let r := rankRun [] [.add 1, .reward 1, .reward 1, .add 2]
    let evict (victim : Nat) (r : List (Nat × Nat)) (q : Nat) := addPeer (r.filter (fun x => x.1 != victim)) q
    scoreOf r 1 = 2 ∧ scoreOf (addPeer r 3) 1 = 2 ∧ scoreOf (evict 1 r 3) 1 = 4 := by decide +kernel

/-- **Scores move as specified (1)** — a result for a live batch changes the
ranking exactly by result kind: OK rewards the reporting peer, a disconnect
resets it to the default score, cancellation leaves the ranking alone, every
other failure punishes it; nothing else in that step touches the ranking. -/
theorem C12_rank_scores (s : State) (p : Nat) (e : Err) (w : Worker) (job : Job) (bp : Batch)
    (hq : s.quit = false) (hoff : offering s = false)
    (hw : findW s.workers p = some w) (ha : w.active = some job)
    (hf : findB s.batches ((s.queries.lookup job.idx).getD 0) = some bp) :
    (step s (.result p e)).1.rank =
      (match e with
       | .ok => reward s.rank p
       | .canceled => s.rank
       | .disconnected => resetRank s.rank p
       | _ => punish s.rank p) := by
  rw [step_result hq hoff, rank_after_result hw ha hf]
  cases e <;> rfl

/-- **Scores move as specified (2)** — for a peer the ranking knows with score
`sc`: a reward lowers the score by one but not below `bestScore`, a punishment
raises it by one but not above `worstScore`, a reset gives `defaultScore`; no
other peer's score changes. -/
theorem C12_score_moves (r : List (Nat × Nat)) (p sc : Nat) (h : r.lookup p = some sc) :
    scoreOf (reward r p) p = (if sc = Gen.Dispatcher.bestScore then sc else sc - 1) ∧
    scoreOf (punish r p) p = (if sc = Gen.Dispatcher.worstScore then sc else sc + 1) ∧
    scoreOf (resetRank r p) p = Gen.Dispatcher.defaultScore ∧
    ∀ q, q ≠ p → scoreOf (reward r p) q = scoreOf r q ∧ scoreOf (punish r p) q = scoreOf r q ∧
      scoreOf (resetRank r p) q = scoreOf r q := by
  have self (o : RankOp) (ho : o.addr = p) : scoreOf (rankStep r o) p =
      (ownStep (some sc) o).getD Gen.Dispatcher.defaultScore := by
    rw [scoreOf, lookup_rankStep, if_pos ho, ho, h]
  exact ⟨self (.reward p) rfl, self (.punish p) rfl, self (.reset p) rfl, fun q hq =>
    ⟨scoreOf_rankStep_other r (o := .reward p) (Ne.symm hq), scoreOf_rankStep_other r (o := .punish p) (Ne.symm hq),
     scoreOf_rankStep_other r (o := .reset p) (Ne.symm hq)⟩⟩

/-- **The hard deadline is honoured on every result** — in every state, when a
worker's result (of ANY kind: OK, timeout, disconnect, cancellation, other
failure, below or at the retry cap, with or without `NoRetryMax`) is processed
for a job of a live batch whose hard deadline has passed, the batch is ended by
that very step: it is gone from `currentBatches` and its result channel holds a
verdict.  In particular a `NoRetryMax` batch whose peers only fail is not
retried beyond its hard `Timeout`. -/
theorem C12_hard_timeout_honoured (s : State) (p : Nat) (e : Err) (w : Worker) (job : Job) (bp : Batch)
    (hq : s.quit = false) (hoff : offering s = false)
    (hw : findW s.workers p = some w) (ha : w.active = some job)
    (hf : findB s.batches ((s.queries.lookup job.idx).getD 0) = some bp) (hh : bp.hardPassed = true) :
    let s' := (step s (.result p e)).1
    let bn := (s.queries.lookup job.idx).getD 0
    findB s'.batches bn = none ∧ ∃ v, (bn, v) ∈ s'.verdicts := by
  show Ended _ (step s (.result p e)).1
  rw [step_result hq hoff]
  exact result_ends_overdue_batch hw ha hf hh e

/-- **A connecting peer always gets a worker** — whenever the dispatcher takes a
peer from `peersConnected` (it is not shut down and not blocked offering a job),
a live, idle worker is registered under the peer's address afterwards, whatever
was registered under that address before: nothing, a worker whose `Run` has
returned but which was not pruned yet (pruning is lazy), or even a running one.
So a persistent peer that drops and reconnects under the same address is
available for the next hand-out. -/
theorem C12_connect_registers (s : State) (p : Nat) (hq : s.quit = false) (hoff : offering s = false) :
    let s' := (step s (.peer p)).1
    findW s'.workers p = some ⟨p, none, false⟩ ∧
    (freeLive s').any (fun w => w.addr == p) = true ∧
    (∀ q, q ≠ p → findW s'.workers q = findW s.workers q) := by
  show findW (step s (.peer p)).1.workers p = _ ∧ (freeLive (step s (.peer p)).1).any _ = true ∧ _
  rw [step_peer hq hoff]
  refine ⟨findW_setW_self _ ⟨p, none, false⟩, ?_, fun q hne => findW_setW_ne _ ⟨p, none, false⟩ hne⟩
  rw [stepPeer, freeLive, setW, List.filter_cons_of_pos rfl, List.any_cons, beq_self_eq_true]; rfl

/-- **A stale wake is ignored** — a wake from an idle timer that does not carry
the batch's current generation (or names a batch that has ended) changes
nothing and produces no verdict, in every state.  Together with
`C12_progress_advances_generation` this is "a batch fails with an idle timeout
only if no request finished within the window": every successful result that
leaves the batch live opens a new generation, so the timer of the window it
closed can no longer end the batch. -/
theorem C12_stale_wake_ignored (s : State) (b g : Nat)
    (h : ∀ bp, findB s.batches b = some bp → g ≠ bp.gen) :
    (step s (.wake b g)).1 = s ∧ ∀ b' v, Out.verdict b' v ∉ (step s (.wake b g)).2 := by
  rw [step_wake, stepWake_stale h]
  exact if_elim (fun r => r.1 = s ∧ ∀ b' v, Out.verdict b' v ∉ r.2) (fun _ => ⟨rfl, fun _ _ hm => nomatch hm⟩)
    (fun _ => ⟨rfl, fun _ _ hm => nomatch hm⟩)

/-- a successful result that leaves a batch with a ProgressTimeout live (not its
last request, hard deadline not passed) advances the batch's generation -/
theorem C12_progress_advances_generation (s : State) (p : Nat) (w : Worker) (job : Job) (bp : Batch)
    (hq : s.quit = false) (hoff : offering s = false)
    (hw : findW s.workers p = some w) (ha : w.active = some job)
    (hf : findB s.batches ((s.queries.lookup job.idx).getD 0) = some bp)
    (hrem : bp.rem ≠ 1) (hh : bp.hardPassed = false) (hp : bp.prog = true) :
    (step s (.result p .ok)).1.batches =
      bumpGen (setRem s.batches ((s.queries.lookup job.idx).getD 0) (bp.rem - 1)) ((s.queries.lookup job.idx).getD 0) := by
  rw [step_result hq hoff, stepResult_ok hw ha rfl hf, if_neg (mt beq_iff_eq.mp hrem), hardCheck, hh, hp]
  rfl

/-- **Re-issue** — when a worker reports a failure other than cancellation
(timeout, disconnect, any other error) for the job it holds, then, unless the
job's batch ended in this very step (retry cap reached, hard deadline passed) or
had ended before, the job is back in the work queue under its ORIGINAL index
(and is again mapped to its batch), so it keeps its place ahead of all later
requests. -/
theorem C12_reissue (s : State) (p : Nat) (e : Err) (w : Worker) (job : Job)
    (hq : s.quit = false) (hoff : offering s = false)
    (hw : findW s.workers p = some w) (ha : w.active = some job)
    (he1 : e ≠ .ok) (he2 : e ≠ .canceled) :
    let s' := (step s (.result p e)).1
    let bn := (s.queries.lookup job.idx).getD 0
    (findB s'.batches bn).isSome = true →
      ∃ j' ∈ s'.work, j'.idx = job.idx ∧ j'.batch = job.batch ∧ s'.queries.lookup job.idx = some bn := by
  show (findB (step s (.result p e)).1.batches _).isSome = true → ∃ j' ∈ (step s (.result p e)).1.work, _
  rw [step_result hq hoff]
  exact reissue_core hw ha he1 he2

/-- **Success means all answered** — for every event list: if batch `b`'s
result channel received the nil verdict, then every request index of `b`
(`sub.first … sub.first+sub.count-1` of its submission record) is in `okd`,
i.e. a worker reported OK for the job carrying that index.  Proved from the
accounting invariant `KW`: in every reachable state a live batch's `rem` is the
number of its jobs in queue ∪ held by workers ∪ lost with an overwritten worker,
job indices are pairwise distinct and mapped to their batch by `queries`, and
every request index of a live batch is finished OK or carried by such a job. -/
theorem C12_success_all (es : List Ev) (b : Nat)
    (hv : (b, Verdict.res .ok) ∈ (run init es).verdicts) :
    ∀ sub ∈ (run init es).subs, sub.id = b →
      ∀ i, sub.first ≤ i → i < sub.first + sub.count → i ∈ (run init es).okd := by
  intro sub hs hid
  exact (inv_run init es KW_init invA_init).1.k.done sub hs (hid ▸ hv)

/-- every submitted batch has a submission record: `C12_success_all` is not vacuous in `sub` -/
theorem C12_subs_recorded (s : State) (n : Nat) (nrm : Bool) (mr : Nat) (pr hn : Bool)
    (h : offering s = false ∨ s.quit = true) :
    (⟨s.nextBatch, s.nextQuery, n⟩ : Sub) ∈ (step s (.newBatch n nrm mr pr hn)).1.subs := by
  rw [step_newBatch h]
  cases s.quit <;> exact List.mem_append_right _ (List.mem_singleton.mpr rfl)

/-- **Success only through the last outstanding request finishing OK**
(the part of `C12_success_all` that is proved for every state and event): a nil
verdict for batch `b` is written only by the step in which a worker reports OK
for the job it holds, that job is mapped to `b`, `b` is live and its remaining
counter is exactly 1; the job is recorded as finished OK.  No timeout, wake,
failure, cancellation, shutdown or late submission ever produces a nil verdict.

This is the single-step companion of `C12_success_all` (which gives "every
request index is in `okd`" for whole histories); the oracle clause
`nil-without-all-ok` checks the same statement on the real dispatcher. -/
theorem C12_success_all_partial (s : State) (e : Ev) (b : Nat)
    (h : Out.verdict b (.res .ok) ∈ (step s e).2) :
    ∃ p w job bp, e = .result p .ok ∧ s.quit = false ∧ findW s.workers p = some w ∧ w.active = some job ∧
      b = (s.queries.lookup job.idx).getD 0 ∧ findB s.batches b = some bp ∧ bp.rem = 1 ∧
      job.idx ∈ (step s e).1.okd :=
  step_ok_verdict s e b h

/-! Non-vacuity: concrete histories that meet the hypotheses and exercise the branches. -/

/-- two batches in flight, a retry, a stale wake, a fresh wake, shutdown, a late submission -/
def demo : List Ev :=
  [.newBatch 2 false 2 true false, .peer 1, .accept 1, .newBatch 1 true 0 false false,
   .result 1 .timeout, .accept 1, .wake 0 7, .result 1 .ok, .accept 1, .result 1 .ok,
   .accept 1, .wake 1 0, .quit, .newBatch 3 false 2 false false]

example : (run init demo).verdicts = [(0, .res .ok), (1, .res .timeout), (2, .shutdown)] := by decide +kernel
example : Ev.quit ∈ demo ∧ (run init demo).nextBatch = 3 := by decide +kernel
example : verdictCount (run init demo) 1 = 1 := by decide +kernel
/-- a re-issued job keeps index 0 and is handed out again before job 1, with a doubled timeout -/
example : outs init (demo.take 6) =
    [.dispatched 1 0 0 2, .resultFor 0, .dispatched 1 0 1 4] := by decide +kernel
/-- the hypotheses of `C12_reissue` hold in a reachable state and its conclusion is not vacuous -/
example :
    let s := run init (demo.take 4)
    s.quit = false ∧ offering s = false ∧
    findW s.workers 1 = some ⟨1, some ⟨0, 0, 0, 2⟩, false⟩ ∧
    (findB (step s (.result 1 .timeout)).1.batches 0).isSome = true := by decide +kernel
/-- `C12_success_all_partial`: the step that writes batch 0's nil verdict, both requests finished -/
example : Out.verdict 0 (.res .ok) ∈ (step (run init (demo.take 9)) (.result 1 .ok)).2 ∧
    (run init (demo.take 10)).okd = [1, 0] := by decide +kernel
/-- `C12_success_all` on the demo history: batch 0 has the nil verdict, its record is ⟨0,0,2⟩, both indices are in `okd` -/
example : (0, Verdict.res .ok) ∈ (run init demo).verdicts ∧ (⟨0, 0, 2⟩ : Sub) ∈ (run init demo).subs ∧
    (run init demo).okd = [1, 0] := by decide +kernel
/-- `C12_rank_scores` / `C12_score_moves`: default 4, punished to 5, rewarded twice to 3, reset to 4 -/
example :
    scoreOf (run init [.peer 1, .newBatch 3 true 0 false false, .accept 1, .result 1 .other]).rank 1 = 5 ∧
    scoreOf (run init [.peer 1, .newBatch 3 true 0 false false, .accept 1, .result 1 .other, .accept 1,
      .result 1 .ok, .accept 1, .result 1 .ok]).rank 1 = 3 ∧
    scoreOf (run init [.peer 1, .newBatch 3 true 0 false false, .accept 1, .result 1 .ok, .accept 1,
      .result 1 .disconnected]).rank 1 = 4 := by decide +kernel
/-- `C12_hard_timeout_honoured`: unlimited retries, the deadline passes, the next FAILED result ends the batch with a timeout -/
example :
    (run init [.peer 1, .newBatch 1 true 0 false false, .accept 1, .result 1 .other, .accept 1,
      .elapse 0, .result 1 .disconnected]).verdicts = [(0, .res .timeout)] := by decide +kernel
/-- `C12_connect_registers`: peer 1 goes away while idle (its stale entry is still in the map), reconnects under
the same address, and the next batch's only request is handed to it -/
example :
    let s := run init [.peer 1, .exit 1]
    findW s.workers 1 = some ⟨1, none, true⟩ ∧ s.quit = false ∧ offering s = false ∧
    outs s [.peer 1, .newBatch 1 false 2 false false, .accept 1] = [.dispatched 1 0 0 2] := by decide +kernel
/-- `C12_stale_wake_ignored`: after one of two requests finished OK the batch is in generation 2; the wake of
generation 1 (the timer that was racing the result) is dropped, the wake of generation 2 ends the batch -/
example :
    let s := run init [.peer 1, .newBatch 2 false 2 true false, .accept 1, .result 1 .ok]
    (findB s.batches 0).map (·.gen) = some 2 ∧
    (step s (.accept 1)).1.verdicts = [] ∧
    (step (step s (.accept 1)).1 (.wake 0 1)).1.verdicts = [] ∧
    (step (step s (.accept 1)).1 (.wake 0 2)).1.verdicts = [(0, .res .timeout)] := by decide +kernel
/-- `C12_rank`: with two free workers of different score only the better one may accept -/
example :
    let s := run init [.peer 1, .peer 2, .newBatch 1 false 2 false false, .accept 1, .result 1 .other]
    (step s (.accept 1)).2 = [.ignored] ∧ (step s (.accept 2)).2 = [.dispatched 2 0 1 2] := by decide +kernel

/-- `C12_rank_waits_for_best` / `C12_offer_is_accept`: worker 1 (score 3) has just delivered a result and is not back
at its channel, worker 2 (score 5) is waiting at its own: the hypotheses hold and the re-issued job goes to worker 1 -/
example :
    let s := run init [.peer 1, .peer 2, .newBatch 2 true 0 false false, .accept 1, .accept 2, .result 1 .ok, .result 2 .other]
    let fate : Nat → Fate := fun q => if q = 1 then .takes 1 else .takes 0
    s.quit = false ∧ (freeLive s).map (·.addr) = [2, 1] ∧ scoreOf s.rank 1 = 3 ∧ scoreOf s.rank 2 = 5 ∧
    offerLoop fate [1, 2] = some 1 ∧ (step s (.accept 1)).2 = [.dispatched 1 1 0 2] ∧
    (step s (.accept 2)).2 = [.ignored] := by decide +kernel
example : RankedFree (run init [.peer 1, .peer 2, .newBatch 2 true 0 false false, .accept 1, .accept 2, .result 1 .ok, .result 2 .other])
    (fun q => if q = 1 then .takes 1 else .takes 0) [1, 2] := by
  refine ⟨by decide, by decide, by decide⟩
/-- `C12_rank_survives_churn` / `C12_record_persists`: 130 other addresses come and go, peer 1 keeps its 3 -/
example :
    let churn : List Ev := (List.range 130).flatMap (fun i => [Ev.peer (100 + i), Ev.exit (100 + i)])
    let s := run init [.peer 1, .newBatch 3 true 0 false false, .accept 1, .result 1 .ok]
    scoreOf s.rank 1 = 3 ∧ (∀ e ∈ churn, ∀ err, e ≠ Ev.result 1 err) := by
  refine ⟨by decide +kernel, ?_⟩
  intro e he err hc
  subst hc
  simp only [List.mem_flatMap, List.mem_range, List.mem_cons, List.not_mem_nil, reduceCtorEq, or_self,
    and_false, exists_false] at he
example : ownScore [.add 1, .reward 1, .add 7, .punish 2, .reward 1, .add 2, .punish 2] 1 = 2 ∧
    ownScore [.add 1, .reward 1, .add 7, .punish 2, .reward 1, .add 2, .punish 2] 2 = 5 ∧
    ownScore [.add 1] 9 = 4 := by decide +kernel

end Neutrino.Disp

namespace Neutrino.Wrk
open Neutrino.Disp (Err)

/-- The arms of the four selects of `worker.Run` as regenerated from the source
on this run, and what the model derives from them.  A channel is named by its
ROLE (the parameter of type `chan<- *jobResult` / `<-chan struct{}`, the
channel obtained from `SubscribeRecvMsg()`, the result of `OnDisconnect()`,
the `.C` of a `time.NewTimer` timer, the struct fields `nextJob`, `cancelChan`,
`internalCancelChan`), the error is whatever is assigned to the variable that
is stored in the `err` field of the result sent, and the wait loop's label is
written `Loop`: no local, receiver or label name enters the facts.  Both
pre-check cancel arms `break` out of the select into the wait loop (they
neither `continue` nor `return`), the default arm sends the request, every wait
arm that holds a job leaves the loop with `break Loop` and the error it stands
for, `quit` returns, the hand-off select sends or returns on quit, and `Run`
returns after an `ErrPeerDisconnected` result. -/
theorem C12_worker_source_facts :
    Arms.ofSource = Arms.good ∧
    Gen.Worker.idleArms = [("nextJob", "", "fall"), ("peerMsg", "", "continue"),
      ("peerDisconnect", "", "return"), ("quit", "", "return")] ∧
    Gen.Worker.precheckArms = [("job.cancelChan", "", "break"), ("job.internalCancelChan", "", "break"),
      ("default", "", "fall")] ∧
    Gen.Worker.waitArms = [("peerMsg", "", "finished:break Loop;unfinished:continue Loop"), ("jobTimer", "ErrQueryTimeout", "break Loop"),
      ("peerDisconnect", "ErrPeerDisconnected", "break Loop"), ("job.cancelChan", "ErrJobCanceled", "break Loop"),
      ("job.internalCancelChan", "ErrJobCanceled", "break Loop"), ("quit", "", "return")] ∧
    Gen.Worker.reportArms = [("results<-", "", "fall"), ("quit", "", "return")] ∧
    Gen.Worker.waitQuitReturns = true ∧ Gen.Worker.reportSendsOrQuits = true :=
  ⟨rfl, rfl, rfl, rfl, rfl, rfl, rfl⟩

/-- **Every accepted job yields exactly one result, unless the worker quits** —
for every event list (any interleaving of jobs handed out with either cancel
channel already closed or not, messages that finish / progress / do nothing,
job timeouts, peer disconnects, external and internal cancellation, the
dispatcher taking results, quit), with the arms as they are in the source:
the results the dispatcher received are, in order, exactly the jobs the worker
accepted, except for the job currently in hand and at most one job that was in
hand when `quit` was seen; no job is ever abandoned.  So the dispatcher's
`activeJob` for this worker is cleared for every job it handed out (each
`reported` entry is one `jobResult`), which is what `C12_reissue` and the
dispatch phase rely on. -/
theorem C12_worker_reports (es : List Ev) :
    let s := run Arms.ofSource init es
    s.dropped = [] ∧
    s.accepted = s.reported.map (·.1) ++ inflight s ++ s.lost ∧
    (s.lost ≠ [] → s.phase = .exited true) ∧ s.lost.length ≤ 1 := by
  intro s
  have h : WInv s := by
    show WInv (run Arms.ofSource init es)
    rw [C12_worker_source_facts.1]; exact winv_run init es winv_init
  exact ⟨h.nodrop, h.acct, h.lostq, h.lost1⟩

/-- **A held job can always be reported**: from any state in which the worker
waits on a job, the job timer firing and the dispatcher taking the result
yield that job's result; from the hand-off state the dispatcher taking it
does.  (The timer is armed for every job, `time.NewTimer(job.timeout)`; that it
eventually fires is the fairness assumption.) -/
theorem C12_worker_progress (s : State) (j : Nat) :
    (∀ sent, s.phase = .waiting j sent →
      (run Arms.ofSource s [.timeout, .deliver]).reported = s.reported ++ [(j, .timeout)]) ∧
    (∀ e, s.phase = .reporting j e →
      (run Arms.ofSource s [.deliver]).reported = s.reported ++ [(j, e)]) := by
  obtain ⟨phase, acc, rep, snt, lost, drp⟩ := s
  exact ⟨fun sent hp => by cases hp; rfl, fun e hp => by cases hp; rfl⟩

/-- What the statement rules out: were the pre-check arm on the internal cancel
channel to `continue` instead of breaking into the wait loop, a job handed out
after its batch ended would be accepted and never reported — the worker is back
in `idle`, the dispatcher keeps it marked busy for ever. -/
theorem C12_worker_reports_counterexample_if_precheck_continues :
    let s := run { Arms.good with preInt := false } init [.job 7 .int, .timeout, .deliver]
    s.accepted = [7] ∧ s.reported = [] ∧ s.phase = .idle ∧ s.dropped = [7] := by decide +kernel

/-! Non-vacuity -/
example :
    (run Arms.ofSource init [.job 1 .none, .msg .progressed, .msg .finished, .deliver, .job 2 .int, .cancelInt,
      .deliver, .job 3 .none, .disconnect, .deliver]).reported =
      [(1, .ok), (2, .canceled), (3, .disconnected)] := by decide +kernel
example :
    let s := run Arms.ofSource init [.job 1 .ext, .cancelExt, .deliver, .job 2 .none, .quit]
    s.accepted = [1, 2] ∧ s.reported = [(1, .canceled)] ∧ s.lost = [2] ∧ s.phase = .exited true := by decide +kernel

end Neutrino.Wrk
