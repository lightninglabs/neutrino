/-
C02 - reorganise only to a strictly heavier valid branch above the last checkpoint.
-/
import Neutrino.Lemmas.BlockMgrC02
namespace Neutrino.BM

/-- **The only way stored headers are replaced** (outside a checkpoint-failure rollback) is
the `adopt` decision of the non-connecting branch, and that decision is taken only if:
the branch's parent is stored (at `bh`), every header of the offered branch is valid on its
own branch, the fork point is at or above the newest checkpoint at or below the in-memory
tip (`findPreviousHeaderCheckpoint(prevNode.Height+1)`, F3 repaired), the branch's work is
STRICTLY greater than the work of the chain it displaces as walked by the code, and the
sender is the sync peer or the node is current.  Equal work, less work, an invalid header,
an unknown parent or a too-deep fork never yield `adopt`.  Every state, every table. -/
theorem C02_replace_guard (c : Cfg) (s : State) (p : Nat) (prev : Node) (h : Nat) (rest : List Nat) (bh : Nat)
    (hd : reorgDecision c s p prev h rest = .adopt bh) :
    (c.tbl.parent h).bind (idxOf s.log) = some bh ∧ (h :: rest).all c.tbl.valid = true ∧
    (findPrevCp c.cps (prev.height + 1)).height ≤ bh ∧
    knownWalk c.tbl s.log (prev.height - bh) s.hl prev.id 0 < sumWork c.tbl (h :: rest) ∧
    (s.sync = some p ∨ synced c s = true) := by
  have spec := reorgDecision_spec c s p prev h rest
  rw [hd] at spec
  exact ⟨spec.2.2.2.1, spec.2.2.2.2.2.1, spec.2.2.2.2.1, spec.2.2.2.2.2.2, spec.1⟩

/-- a reorganisation keeps the stored prefix up to the fork point and puts the first header of
the branch on top of it; nothing else of the store changes (every state with a good log). -/
theorem C02_reorg_shape (c : Cfg) (hw : 1 ≤ c.win) (s : State) (p h bh : Nat) (g : Good c.tbl s.log)
    (hc : s.corrupt = false) (hidx : (c.tbl.parent h).bind (idxOf s.log) = some bh) (hv : c.tbl.valid h = true) :
    (doReorg c s p h bh).1.log = s.log.take (bh + 1) ++ [h] ∧ Good c.tbl (doReorg c s p h bh).1.log := by
  obtain ⟨-, -, f, ft, he⟩ := doReorg_eq c s p hidx
  exact ⟨by rw [he], (doReorg_inv hw p g hc hidx hv).good⟩

/-- **Else unchanged** (first non-connecting header of a message): when the decision is to
ignore or to disconnect, the handler returns with the store exactly as it was. -/
theorem C02_else_unchanged_partial (c : Cfg) (p : Nat) (s : State) (l : Loc) (ntf : List Ntfn) (prev : Node)
    (h : Nat) (rest : List Nat) (hhd : s.hl.head? = some prev) (hpar : c.tbl.parent h ≠ some prev.id)
    (hd : reorgDecision c s p prev h rest = .ignore ∨ reorgDecision c s p prev h rest = .disconnect) :
    (loop c p (h :: rest) s l ntf).1.log = s.log ∧ (loop c p (h :: rest) s l ntf).1.corrupt = s.corrupt := by
  rw [loop_fork hhd hpar]
  rcases hd with hd | hd <;> rw [hd] <;> exact ⟨rfl, rfl⟩

/-- a batch that is not linked internally changes nothing but the sender's fate -/
theorem C02_unlinked_unchanged (c : Cfg) (s : State) (p : Nat) (hs : List Nat) (h : linked c.tbl hs = false) :
    (handleHeaders c s p hs).1.log = s.log := by
  rcases handleHeaders_cases c s p hs with ⟨-, hl, -⟩ | ⟨-, ps, e⟩
  · rw [h] at hl; cases hl
  · rw [e]

/-- The letter of the property for one `headers` event.  FALSE on the code as it is because of
finding F16 (`C02_work_monotone_counterexample` below is the same instance): kept visible. -/
def C02_replace_only_heavier : Prop :=
  ∀ (c : Cfg) (peers : List Peer) (es : List Ev) (p : Nat) (hs : List Nat), CpsOk c.cps → 1 ≤ c.win →
    let s := run c (init c peers) es
    let s' := (handleHeaders c s p hs).1
    let k := commonLen s.log s'.log
    s.log.drop k ≠ [] → isPrefix s'.log s.log = false →
      (s'.log.drop k).all c.tbl.valid = true ∧ sumWork c.tbl (s.log.drop k) < sumWork c.tbl (s'.log.drop k) ∧
      floorAt c.cps (tipHeight s.log) ≤ k - 1

/-- **Replace only by a heavier valid branch above the last checkpoint - every history.**
Whenever a `headers` message makes a previously stored header disappear, then either the result
is a mere prefix of what was stored (the checkpoint-failure rollback), or: the store keeps its
prefix up to a fork point `bh` at or above the newest checkpoint the chain has passed, the
headers put on top are a prefix `ext` of the branch `h :: suf` the message offered after the
headers already known, EVERY header of that offered branch is valid, the offered branch has
STRICTLY more work than the displaced suffix (the real displaced suffix: `knownWalk` equals it
because the whole in-memory list is the top of the stored chain), the sender is the sync peer or
the node is current, and the branch is stored in full unless it ran into the next checkpoint
(then the stored tip IS that checkpoint - finding F16).  Any table, checkpoints, window, peers. -/
theorem C02_replace_only_heavier_partial (c : Cfg) (ok : CpsOk c.cps) (hw : 1 ≤ c.win) (peers : List Peer)
    (es : List Ev) (p : Nat) (hs : List Nat) :
    let s := run c (init c peers) es
    let s' := (handleHeaders c s p hs).1
    s.log.drop (commonLen s.log s'.log) ≠ [] → ReplaceShape c p s hs s'.log := by
  intro s s' hrem
  exact replace_shape c ok hw p s (inv_run c ok hw _ es (inv_init c ok peers)) hs hrem

/-- in particular: when the offered branch is stored in full, the new suffix is valid, strictly
heavier than the displaced one, and forks at or above the newest passed checkpoint -/
theorem C02_replace_heavier_when_full (c : Cfg) (p : Nat) (s : State) (hs out : List Nat)
    (h : ReplaceShape c p s hs out) (hnp : isPrefix out s.log = false) :
    ∃ bh h' suf ext, out = s.log.take (bh + 1) ++ h' :: ext ∧ floorAt c.cps (tipHeight s.log) ≤ bh ∧
      (h' :: suf).all c.tbl.valid = true ∧ sumWork c.tbl (s.log.drop (bh + 1)) < sumWork c.tbl (h' :: suf) ∧
      (ext = suf ∨ ext.length < suf.length) := by
  rcases h with h | ⟨bh, h', suf, ext, pre, _, _, hout, _, _, _, _, hval, hfl, hwork, _, hcase⟩
  · rw [h] at hnp; cases hnp
  · refine ⟨bh, h', suf, ext, hout, hfl, hval, hwork, ?_⟩
    rcases hcase with h1 | ⟨h1, _⟩
    · exact Or.inl h1
    · exact Or.inr h1

/-- **Adopt in full - every history**: a fully valid, internally linked batch that extends the
stored tip and does not reach the next checkpoint's height is stored in full, whoever sent it. -/
theorem C02_adopt_full (c : Cfg) (ok : CpsOk c.cps) (hw : 1 ≤ c.win) (peers : List Peer) (es : List Ev)
    (p : Nat) (hs : List Nat) :
    let s := run c (init c peers) es
    linked c.tbl hs = true → hs.all c.tbl.valid = true →
    (∀ h, hs.head? = some h → c.tbl.parent h = some (tipId s.log)) →
    (∀ cp, s.ncp = some cp → tipHeight s.log + hs.length < cp.height) →
    (handleHeaders c s p hs).1.log = s.log ++ hs := by
  intro s hlk hval hconn hnocp
  have inv : Inv c s := inv_run c ok hw _ es (inv_init c ok peers)
  rcases handleHeaders_cases c s p hs with ⟨-, -, e⟩ | ⟨hh, ps, e⟩ <;> rw [e]
  · have := (connect_run c ok hw p hs s {} [] hlk (LIf_of_inv hs inv rfl rfl)
      (fun h hh => by dsimp only; rw [List.append_nil]; exact hconn h hh)).2
    dsimp only at this
    rw [List.append_nil] at this
    refine this.full hval fun cp hn => ?_
    rw [← inv.good.tipHeight_succ, Nat.add_right_comm]
    exact hnocp cp hn
  · rw [hh.resolve_right (by rw [hlk]; exact Bool.noConfusion), List.append_nil]

/-- the same for a strictly heavier valid branch from a peer the node listens to: if the message
starts with the fork's first header and does not reach the next checkpoint, it is stored in full -/
theorem C02_adopt_full_reorg (c : Cfg) (ok : CpsOk c.cps) (hw : 1 ≤ c.win) (peers : List Peer) (es : List Ev)
    (p h : Nat) (suf : List Nat) (bh : Nat) :
    let s := run c (init c peers) es
    linked c.tbl (h :: suf) = true → c.tbl.parent h ≠ some (tipId s.log) →
    reorgDecision c s p ⟨tipId s.log, tipHeight s.log⟩ h suf = .adopt bh →
    (∀ cp, s.ncp = some cp → bh + 1 + suf.length < cp.height) →
    (handleHeaders c s p (h :: suf)).1.log = s.log.take (bh + 1) ++ h :: suf := by
  intro s hlk hpar hd hnocp
  have inv : Inv c s := inv_run c ok hw _ es (inv_init c ok peers)
  rcases handleHeaders_cases c s p (h :: suf) with ⟨-, -, e⟩ | ⟨hh | hh, -⟩
  rotate_left
  · cases hh
  · rw [hlk] at hh; cases hh
  rw [e]
  obtain ⟨hbh, -, hc⟩ := reorg_run c ok hw p h suf s {} [] inv rfl rfl hlk hpar bh hd
  have spec := reorgDecision_spec c s p ⟨tipId s.log, tipHeight s.log⟩ h suf
  rw [hd] at spec
  have hsuf := (all_valid_cons spec.2.2.2.2.2.1).2
  have hlen : (s.log.take (bh + 1)).length = bh + 1 :=
    List.length_take.trans (Nat.min_eq_left (Nat.le_of_lt (Nat.add_lt_of_lt_sub hbh)))
  rw [hc.full hsuf fun cp hn => ?_, List.append_assoc]; rfl
  rw [List.length_append, hlen, List.length_singleton, Nat.add_right_comm]
  exact hnocp cp hn

/-- **The known work is the work of exactly the displaced suffix.**  In every state that satisfies
the invariant (so: in every reachable state, see the corollary), whatever the table - the blocks may
all have different work -, the number the reorganisation arm compares the offered branch with
(`knownWalk`: `prev.height - bh` steps back from the in-memory tip, list nodes while they last, then
the store) is the sum of the work of the stored headers at heights `bh + 1 .. tip`: neither the fork
block (height `bh`) nor anything below it is counted, and the tip is.  (`known_is_displaced` in
Lemmas/BlockMgrC02 is the same statement with the in-memory tip already identified.) -/
theorem C02_known_work_is_displaced_suffix (c : Cfg) (s : State) (inv : Inv c s) (prev : Node)
    (hhd : s.hl.head? = some prev) (bh : Nat) (hbh : bh < tipHeight s.log) :
    knownWalk c.tbl s.log (prev.height - bh) s.hl prev.id 0 = sumWork c.tbl (s.log.drop (bh + 1)) := by
  have h := inv.anch.head inv.good
  rw [hhd] at h
  have hp : prev = ⟨tipId s.log, tipHeight s.log⟩ := Option.some.inj h
  subst hp
  exact known_is_displaced c s inv bh hbh

/-- the same after every history -/
theorem C02_known_work_every_history (c : Cfg) (ok : CpsOk c.cps) (hw : 1 ≤ c.win) (peers : List Peer)
    (es : List Ev) (bh : Nat) :
    let s := run c (init c peers) es
    bh < tipHeight s.log →
    knownWalk c.tbl s.log (tipHeight s.log - bh) s.hl (tipId s.log) 0 = sumWork c.tbl (s.log.drop (bh + 1)) := by
  intro s hbh
  exact known_is_displaced c s (inv_run c ok hw _ es (inv_init c ok peers)) bh hbh

/-- **The decision is the comparison with the displaced suffix, in both directions.**  For a header
that is not stored, whose parent is stored at `bh` below the tip and at or above the newest passed
checkpoint, offered with a fully valid rest by a peer the node listens to: the branch is adopted
iff its work is STRICTLY greater than the work of the stored headers at heights `bh + 1 .. tip`,
ignored iff equal, and the peer disconnected iff less.  Every state satisfying the invariant. -/
theorem C02_decision_by_displaced_work (c : Cfg) (s : State) (inv : Inv c s) (p h : Nat) (rest : List Nat)
    (bh : Nat) (hl : s.sync = some p ∨ synced c s = true) (hnew : h ∉ s.log)
    (hpar : (c.tbl.parent h).bind (idxOf s.log) = some bh) (hbh : bh < tipHeight s.log)
    (hfl : (findPrevCp c.cps (tipHeight s.log + 1)).height ≤ bh) (hval : (h :: rest).all c.tbl.valid = true) :
    reorgDecision c s p ⟨tipId s.log, tipHeight s.log⟩ h rest =
      (if sumWork c.tbl (s.log.drop (bh + 1)) > sumWork c.tbl (h :: rest) then .disconnect
       else if sumWork c.tbl (s.log.drop (bh + 1)) = sumWork c.tbl (h :: rest) then .ignore
       else .adopt bh) := by
  have hk := known_is_displaced c s inv bh hbh
  have htip : h ≠ tipId s.log := fun e => hnew (e ▸ tipId_mem inv.good.ne_nil)
  have hlisten : (s.sync != some p && !synced c s) = false := by
    rcases hl with h1 | h1 <;> simp [h1]
  have hfl' : ¬ bh < (findPrevCp c.cps (tipHeight s.log + 1)).height := Nat.not_lt.mpr hfl
  have hval' : (!(h :: rest).all c.tbl.valid) = false := by rw [hval]; rfl
  simp only [reorgDecision, hlisten, Bool.false_eq_true, ↓reduceIte, htip, hnew, hpar, hfl', hval', hk]

/-- The letter of "total work never decreases except on a checkpoint-failure rollback".
FALSE on the code as it is (finding F16); see the counterexample and the partial theorem. -/
def C02_work_monotone : Prop :=
  ∀ (c : Cfg) (peers : List Peer) (es : List Ev) (e : Ev), CpsOk c.cps → 1 ≤ c.win →
    let s := run c (init c peers) es
    isPrefix (step c s e).1.log s.log = false ∨ (step c s e).1.log = s.log →
    sumWork c.tbl s.log ≤ sumWork c.tbl (step c s e).1.log

/-- **Work never decreases, every history** - except on a checkpoint-failure rollback (the result
is a proper prefix of what was stored) and except in the recorded shape F16
(`truncatedShape`, the very predicate the driver tags `reorg-truncated-at-checkpoint`). -/
theorem C02_work_monotone_partial (c : Cfg) (ok : CpsOk c.cps) (hw : 1 ≤ c.win) (peers : List Peer) (es : List Ev) (e : Ev) :
    let s := run c (init c peers) es
    let s' := (step c s e).1
    (∀ p hs, e = .headers p hs → truncatedShape c hs s.log s'.log = false) →
    (∀ p hs, e ≠ .headersFailWrite p hs) →
    (isPrefix s'.log s.log = false ∨ s'.log = s.log) →
    sumWork c.tbl s.log ≤ sumWork c.tbl s'.log := by
  intro s s' htr hnf hnp
  have inv : Inv c s := inv_run c ok hw _ es (inv_init c ok peers)
  have hq := step_quiet c s e
  cases e with
  | headersFailWrite p hs => exact absurd rfl (hnf p hs)
  | importReset b n =>
    -- an import only appends
    show _ ≤ sumWork c.tbl (if chainOk c s.log b then s.log ++ b else s.log)
    split
    · rw [sumWork_append]; exact Nat.le_add_right _ _
    · exact Nat.le_refl _
  | headers p hs =>
    have htr' := htr p hs rfl
    by_cases hrem : s.log.drop (commonLen s.log s'.log) = []
    · -- nothing removed: the old chain is a prefix of the new one
      have ht := commonLen_take s.log s'.log
      rw [List.take_of_length_le (List.drop_eq_nil_iff.mp hrem)] at ht
      rw [sumWork_split c.tbl s'.log (commonLen s.log s'.log), ← ht]; exact Nat.le_add_right _ _
    · have hsh : ReplaceShape c p s hs s'.log := replace_shape c ok hw p s inv hs hrem
      rcases hsh with hpre | ⟨bh, h, suf, ext, pre, hlt', hk, hout, hpx, he, hp, hn, hval, hfl, hwork, _, hcase⟩
      · rcases hnp with h1 | h1
        · cases hpre.symm.trans h1
        · exact absurd (by rw [h1, commonLen_self, List.drop_length]) hrem
      · rcases hcase with h1 | ⟨hlt, cp, hcm, hlen, htip⟩
        · rw [hout, h1, sumWork_append, sumWork_split c.tbl s.log (bh + 1)]
          exact Nat.add_le_add_left (Nat.le_of_lt hwork) _
        · -- truncated at the next checkpoint: excluded by hypothesis
          have hadd : s'.log.drop (bh + 1) = h :: ext :=
            hout ▸ List.drop_left' (List.length_take.trans (Nat.min_eq_left (Nat.le_of_lt hlt')))
          have : truncatedShape c hs s.log s'.log = true := by
            rw [truncatedShape]
            rw [hk, hadd, he, dropWhile_known s.log pre h suf hp hn]
            simp only [Bool.and_eq_true, bne_iff_ne, ne_eq, List.cons_ne_nil, not_false_eq_true, decide_eq_true_eq,
              true_and, List.any_eq_true, beq_iff_eq, isPrefix, beq_self_eq_true, Bool.true_and]
            exact ⟨⟨⟨hpx, Nat.succ_lt_succ hlt⟩, hwork⟩, cp, hcm, hlen.symm, htip⟩
          rw [this] at htr'; cases htr'
  | cfWrite stop n okk => rw [show s'.log = s.log from (cfWrite_fields s stop n okk).1]; exact Nat.le_refl _
  | _ => rw [show s'.log = s.log from hq.1.log]; exact Nat.le_refl _

def f16Tbl : Tbl :=
  { parent := fun i => match i with | 1 => some 0 | 3 => some 0 | 4 => some 3 | 5 => some 4 | _ => none
    work := fun i => match i with | 1 => 10 | 5 => 20 | _ => 2
    valid := fun _ => true, fresh := fun _ => true
    height := fun i => match i with | 1 => 1 | 3 => 1 | 4 => 2 | 5 => 3 | _ => 0 }
/-- stored `[0, 1]` (work 2 + 10), next checkpoint at height 2 = header 4; the sync peer offers
`[3, 4, 5]` (work 2 + 2 + 20 > 10): the reorganisation is decided on 24 > 10, but the loop breaks
at the checkpoint and `[0, 3, 4]` (work 6) replaces `[0, 1]` (work 12). -/
def f16Cfg : Cfg := { tbl := f16Tbl, cps := [⟨2, 4⟩], win := 8 }
def f16Peers : List Peer := [{ id := 1, cand := true }]
def f16Es : List Ev := [.newPeer 1, .headers 1 [1]]

theorem f16_cpsOk : CpsOk f16Cfg.cps := ⟨by simp [f16Cfg], by simp [f16Cfg]⟩

example : (run f16Cfg (init f16Cfg f16Peers) f16Es).log = [0, 1] := by decide +kernel
example : (step f16Cfg (run f16Cfg (init f16Cfg f16Peers) f16Es) (.headers 1 [3, 4, 5])).1.log = [0, 3, 4] := by decide +kernel
example : truncatedShape f16Cfg [3, 4, 5] [0, 1] [0, 3, 4] = true := by decide +kernel

/-- **`C02_work_monotone` is false on the code as it is (F16).** -/
theorem C02_work_monotone_counterexample : ¬ C02_work_monotone := by
  intro h
  have := h f16Cfg f16Peers f16Es (.headers 1 [3, 4, 5]) f16_cpsOk (by decide) (Or.inl (by decide))
  exact absurd this (by decide)

/-- **`C02_replace_only_heavier` is false on the code as it is (same instance).** -/
theorem C02_replace_only_heavier_counterexample : ¬ C02_replace_only_heavier := by
  intro h
  have := h f16Cfg f16Peers f16Es 1 [3, 4, 5] f16_cpsOk (by decide) (by decide) (by decide)
  exact absurd this.2.1 (by decide)

/-! Non-vacuity -/
def exTbl2 : Tbl :=
  { parent := fun i => match i with | 0 => none | 1 => some 0 | 2 => some 1 | 3 => some 1 | 4 => some 3 | 5 => some 1 | _ => none
    work := fun _ => 2, valid := fun _ => true, fresh := fun _ => true }
def exCfg2 : Cfg := { tbl := exTbl2, cps := [], win := 8 }
def exS : State := run exCfg2 (init exCfg2 [{ id := 1, cand := true }]) [.newPeer 1, .headers 1 [1, 2]]

example : reorgDecision exCfg2 exS 1 ⟨2, 2⟩ 3 [4] = .adopt 1 := by decide      -- heavier: adopted
example : reorgDecision exCfg2 exS 1 ⟨2, 2⟩ 5 [] = .ignore := by decide        -- equal work: ignored
example : (step exCfg2 exS (.headers 1 [3, 4])).1.log = [0, 1, 3, 4] := by decide +kernel
example : (step exCfg2 exS (.headers 1 [5])).1.log = [0, 1, 2] := by decide +kernel

/-! Non-constant work: stored `[0, 1, 2, 3]` with work 2, 2, 8, 3 (a retarget between 1 and 2, a
lighter tip).  Forking at height 1 (fork block: work 2) the displaced suffix `[2, 3]` weighs 11 -
not 10 = work(1) + work(2), the sum over the window shifted down by one block, and not 13. -/
def exTbl3 : Tbl :=
  { parent := fun i => match i with | 1 => some 0 | 2 => some 1 | 3 => some 2 | 4 => some 1 | 5 => some 1 | 6 => some 1 | _ => none
    work := fun i => match i with | 2 => 8 | 3 => 3 | 4 => 11 | 5 => 12 | 6 => 10 | _ => 2
    valid := fun _ => true, fresh := fun _ => true }
def exCfg3 : Cfg := { tbl := exTbl3, cps := [], win := 8 }
def exS3 : State := run exCfg3 (init exCfg3 [{ id := 1, cand := true }]) [.newPeer 1, .headers 1 [1, 2, 3]]

example : exS3.log = [0, 1, 2, 3] ∧ exS3.hl.head? = some ⟨3, 3⟩ := by decide +kernel
example : knownWalk exCfg3.tbl exS3.log (3 - 1) exS3.hl 3 0 = 11 := by decide +kernel
example : sumWork exCfg3.tbl (exS3.log.drop (1 + 1)) = 11 := by decide +kernel
example : reorgDecision exCfg3 exS3 1 ⟨3, 3⟩ 4 [] = .ignore := by decide          -- 11 = 11: a tie
example : reorgDecision exCfg3 exS3 1 ⟨3, 3⟩ 5 [] = .adopt 1 := by decide        -- 12 > 11
example : reorgDecision exCfg3 exS3 1 ⟨3, 3⟩ 6 [] = .disconnect := by decide     -- 10 < 11 (but = 2 + 8)
example : (step exCfg3 exS3 (.headers 1 [6])).1.log = [0, 1, 2, 3] := by decide +kernel
example : (step exCfg3 exS3 (.headers 1 [5])).1.log = [0, 1, 5] := by decide +kernel

/-- **Replaced means gone.**  In every reachable state, whatever the event (a reorganisation, a
flip back to a branch that was stored before, a checkpoint-failure rollback, a failed write, an
import): a header that is no longer on the accepted chain after the event does not resolve by hash
any more, and a header that is on it resolves at its position - the by-hash index is exactly the
accepted chain, so a later message never finds a "known" header or a fork point that is not
stored (oracle clause `displaced-header-still-resolves`; a store whose look-up memo outlives the
roll-back falsifies it: `C01_memo_survives_rollback_counterexample`). -/
theorem C02_displaced_do_not_resolve (c : Cfg) (peers : List Peer) (es : List Ev) (e : Ev) :
    let s := run c (init c peers) es
    let s' := (step c s e).1
    (∀ id, id ∈ s.log → id ∉ s'.log → idxOf s'.log id = none) ∧
    (∀ id, id ∈ s'.log → (idxOf s'.log id).isSome = true) := by
  intro s s'
  refine ⟨fun id _ hn => ?_, fun id hm => (idxOf_isSome_iff _ id).2 hm⟩
  cases h : idxOf s'.log id with
  | none => rfl
  | some i => exact absurd (List.mem_of_getElem? (idxOf_some h).2) hn

/-- a flip-back history in the model: A = 1,2; B = 3,4,5 heavier; A extended by 6,7 heavier again,
re-offered from height 1 (the stored prefix is skipped as known): adopted in full, B gone. -/
def flipTbl : Tbl :=
  { parent := fun i => match i with
      | 1 => some 0 | 2 => some 1 | 3 => some 1 | 4 => some 3 | 5 => some 4 | 6 => some 2 | 7 => some 6 | _ => none
    work := fun i => if i == 7 then 2 else 1
    valid := fun _ => true
    fresh := fun _ => true }
def flipCfg : Cfg := { tbl := flipTbl, cps := [], win := 8 }
def flipEs : List Ev := [.newPeer 1, .headers 1 [1, 2], .headers 1 [3, 4, 5], .headers 1 [1, 2, 6, 7]]
example : (run flipCfg (init flipCfg [{ id := 1, cand := true }]) (flipEs.take 3)).log = [0, 1, 3, 4, 5] := by decide +kernel
example : (run flipCfg (init flipCfg [{ id := 1, cand := true }]) flipEs).log = [0, 1, 2, 6, 7] ∧
    idxOf (run flipCfg (init flipCfg [{ id := 1, cand := true }]) flipEs).log 4 = none := by decide +kernel

end Neutrino.BM
