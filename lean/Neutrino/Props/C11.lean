/-
C11 — each block-notification subscriber sees every event once, in order, from
its start.

All theorems quantify over EVERY event list (`List Ev`): any number of
subscribers, any interleaving of subscribe / emit / handler fan-out / forwarder
moves / consumer reads / cancel / stop.
-/
import Neutrino.Lemmas.Subs
import Neutrino.Lemmas.SubsIso
import Neutrino.Lemmas.SubsDrain
import Neutrino.Lemmas.SubsWindow
import Neutrino.Lemmas.SubsReg
import Neutrino.Spec.Subs
import Neutrino.Gen.Subs
namespace Neutrino.Subs

/-- **Nothing lost, duplicated or reordered, at every step.**  In every
reachable state, for every registered subscriber: what it has received, followed
by what sits in its channel, followed by what sits in its queue, is exactly its
backlog followed by the notifications pushed to it since registration; those are
the notifications the handler fanned out after its registration, in fan-out
order (all of them while it is registered, a prefix once it is cancelled or the
manager stopped).  Hence the received sequence is always a prefix of
`backlog ++ fanned-out-since-registration`; the channel never exceeds its
capacity. -/
theorem C11_prefix (evs : List Ev) (id : Nat) (x : Sub) (hx : (run init evs).subs id = some x) :
    x.delivered ++ x.chan ++ x.queue = x.backlog ++ x.since ∧
    x.since <+: (run init evs).fanned.drop x.regAt ∧
    (x.live = true → x.since = (run init evs).fanned.drop x.regAt) ∧
    x.delivered <+: x.backlog ++ (run init evs).fanned.drop x.regAt ∧
    x.chan.length ≤ chanCap := by
  have h := inv_run init evs inv_init id x hx
  refine ⟨h.conserve, h.sincePre, h.sinceLive, ?_, h.capOk⟩
  have h1 : x.delivered <+: x.backlog ++ x.since := by
    rw [← h.conserve, List.append_assoc]; exact List.prefix_append _ _
  exact List.IsPrefix.trans h1 ((List.prefix_append_right_inj _).2 h.sincePre)

/-- **No duplicates**: if the source never repeats a notification (backlog and
emissions are pairwise distinct), no subscriber receives one twice. -/
theorem C11_no_dup (evs : List Ev) (id : Nat) (x : Sub) (hx : (run init evs).subs id = some x)
    (hnd : (x.backlog ++ (run init evs).fanned.drop x.regAt).Nodup) : x.delivered.Nodup :=
  List.Nodup.sublist (C11_prefix evs id x hx).2.2.2.1.sublist hnd

/-- **Complete when drained**: whenever a subscriber's queue and channel are
empty it has received its whole stream; if it is still registered that is the
backlog plus every notification fanned out since its registration. -/
theorem C11_complete_drained (evs : List Ev) (id : Nat) (x : Sub)
    (hx : (run init evs).subs id = some x) (hq : x.queue = []) (hc : x.chan = []) :
    x.delivered = x.backlog ++ x.since ∧
    (x.live = true → x.delivered = x.backlog ++ (run init evs).fanned.drop x.regAt) := by
  obtain ⟨h1, _, h3, _, _⟩ := C11_prefix evs id x hx
  rw [hq, hc, List.append_nil, List.append_nil] at h1
  exact ⟨h1, fun hl => by rw [h1, h3 hl]⟩

/-- **Every notification is eventually deliverable, however late the subscriber
reads**: from any reachable state, a subscriber whose channel is open (not
cancelled, manager not stopped) that keeps reading — the schedule
"forwarder moves one, consumer reads one" repeated `chan.length + queue.length`
times, with no bound on how much had piled up — ends with empty queue and channel
and has received its backlog and every notification fanned out since its
registration, in order. -/
theorem C11_complete (evs : List Ev) (id : Nat) (x : Sub)
    (hx : (run init evs).subs id = some x) (hopen : x.closed = false) :
    ∃ y, (run init (evs ++ drainEvs id (x.chan.length + x.queue.length))).subs id = some y ∧
      y.chan = [] ∧ y.queue = [] ∧
      y.delivered = x.backlog ++ (run init evs).fanned.drop x.regAt := by
  have h := inv_run init evs inv_init id x hx
  have hlive : x.live = true := by rw [h.liveClosed, hopen]; rfl
  obtain ⟨y, hy, hyc, hyq, hyd⟩ := drain_run id _ (run init evs) x hx hopen rfl
  refine ⟨y, by rw [run_append]; exact hy, hyc, hyq, ?_⟩
  rw [hyd, h.conserve, h.sinceLive hlive]

/-- **Nothing falls between backlog and live stream.**  Whatever the source emits
(`w`, any length) while the handler is busy with subscriber `id`'s registration —
i.e. after the backlog snapshot `bl` was taken and before the handler is free
again — waits at the source, is fanned out after the registration, and is owed to
the new subscriber right after its backlog: its stream is exactly `bl ++ w`, in
order, nothing lost and nothing twice.  (This is what breaks when the snapshot is
taken outside the handler goroutine: see `C11_source_facts`,
`backlogLookupCallers`.) -/
theorem C11_registration_window (evs : List Ev) (id h : Nat) (bl w : List Ntfn)
    (hrun : (run init evs).stopped = false) (hfresh : (run init evs).subs id = none)
    (hsrc : (run init evs).src = []) :
    ∃ x, (run init (evs ++ w.map Ev.emit ++ [.subscribe id h bl] ++
              w.map (fun _ => Ev.handlerFanout))).subs id = some x ∧
      x.backlog = bl ∧ x.since = w ∧ x.delivered ++ x.chan ++ x.queue = bl ++ w := by
  have h1 : run init (evs ++ w.map Ev.emit) = { run init evs with src := w } := by
    rw [run_append, run_emits, hsrc]; rfl
  let x0 : Sub := { height := h, regAt := (run init evs).fanned.length, backlog := bl, queue := bl }
  -- the state when the handler finishes the registration step
  have h2 : run init (evs ++ w.map Ev.emit ++ [.subscribe id h bl]) =
      { run init evs with src := w, subs := setSub (run init evs).subs id x0 } := by
    rw [run_append, h1]
    simp [run, step, hrun, hfresh, x0]
  obtain ⟨hf, y, hy, hyl, hyr, hyb⟩ :=
    run_fanouts w { run init evs with src := w, subs := setSub (run init evs).subs id x0 } []
      hrun (by simp) id x0 (by simp [setSub]) rfl
  have hf' : (run { run init evs with src := w, subs := setSub (run init evs).subs id x0 }
      (w.map fun _ => Ev.handlerFanout)).fanned = (run init evs).fanned ++ w := hf
  rw [← h2, ← run_append] at hy hf'
  obtain ⟨hc, _, hlive, _, _⟩ := C11_prefix _ id y hy
  have hs : y.since = w := by
    rw [hlive hyl, hf', hyr]
    show ((run init evs).fanned ++ w).drop (run init evs).fanned.length = w
    simp
  exact ⟨y, hy, hyb, hs, by rw [hc, hyb, hs]⟩

/-- **Isolation**: deleting all of subscriber `B`'s events (its registration,
its forwarder's moves, its reads or its never reading, its cancellation) from
any run changes nothing for anybody else: every other subscriber's whole record
(received, channel, queue, closed flag), the source buffer, the fan-out history
and the stopped flag are identical, and every other event returns the same
output.  So no event of `A` is enabled, disabled or altered by `B`'s queue,
channel or consumer state. -/
theorem C11_isolation (B : Nat) (evs : List Ev) :
    (∀ A, A ≠ B → (run init evs).subs A = (run init (evs.filter (notOf B))).subs A) ∧
    (run init evs).src = (run init (evs.filter (notOf B))).src ∧
    (run init evs).fanned = (run init (evs.filter (notOf B))).fanned ∧
    (run init evs).stopped = (run init (evs.filter (notOf B))).stopped ∧
    outsWhere (notOf B) init evs = outs init (evs.filter (notOf B)) := by
  obtain ⟨h1, h2⟩ := run_hide B init evs
  have hi : hideState B init = init := State.ext' (by funext i; simp [hideState, hide, init]) rfl rfl rfl
  rw [hi] at h1 h2
  refine ⟨fun A hA => ?_, ?_, ?_, ?_, h2⟩
  · rw [← h1]; simp [hideState, hide, hA]
  · rw [← h1]; rfl
  · rw [← h1]; rfl
  · rw [← h1]; rfl

/-- **Cancel closes**: handling a subscriber's cancel request (manager running)
leaves its channel closed and the subscriber out of the fan-out map. -/
theorem C11_cancel_closes (evs : List Ev) (id : Nat) (x : Sub)
    (hx : (run init evs).subs id = some x) (hrun : (run init evs).stopped = false) :
    ∃ y, (run init (evs ++ [.cancel id])).subs id = some y ∧ y.closed = true ∧ y.live = false := by
  have h := inv_run init evs inv_init id x hx
  have h' := h.cancel true
  have hc := h'.stoppedClosed rfl
  exact ⟨x.cancel, by rw [run_append]; simp [run, step, hrun, upd, hx], hc, by rw [h'.liveClosed, hc]; rfl⟩

/-- **Stop closes everything**: once the manager is stopped every subscriber's
channel is closed. -/
theorem C11_stop_closes (evs : List Ev) (id : Nat) (x : Sub)
    (hx : (run init evs).subs id = some x) (hst : (run init evs).stopped = true) :
    x.closed = true :=
  (inv_run init evs inv_init id x hx).stoppedClosed hst

/-- **Nothing after close.**  The Go `cancel()` is: stop the queue, close
`quit`, WAIT for the forwarder goroutine to exit, and only then close the
channel (under a `sync.Once`, see `C11_source_facts`); so at the moment the
channel is closed nobody can send on it any more.  In the model: once a
subscriber's channel is closed (by cancel or stop), in every continuation
(whatever anybody does, including further emissions, the subscriber's own reads
and repeated cancel/stop) the channel stays closed, the subscriber stays out of
the map, nothing is ever added to its channel — `delivered ++ chan` is frozen,
i.e. the consumer can only ever receive what the channel held when it was closed
— and what was still queued is never delivered. -/
theorem C11_closed_silent (evs more : List Ev) (id : Nat) (x : Sub)
    (hx : (run init evs).subs id = some x) (hc : x.closed = true) :
    ∃ y, (run init (evs ++ more)).subs id = some y ∧ y.closed = true ∧ y.live = false ∧
      y.delivered ++ y.chan = x.delivered ++ x.chan ∧
      y.delivered <+: x.delivered ++ x.chan ∧
      y.queue = x.queue ∧ y.since = x.since := by
  have h := inv_run init evs inv_init id x hx
  have hl : x.live = false := by rw [h.liveClosed, hc]; rfl
  obtain ⟨y, hy, hf⟩ := frozen_run (run init evs) more id x x hx (Frozen.refl hc hl)
  refine ⟨y, by rw [run_append]; exact hy, hf.closed, hf.dead, hf.chanOk, ?_, hf.queueEq, hf.sinceEq⟩
  rw [← hf.chanOk]; exact List.prefix_append _ _

/-- After the consumer has observed the close it never receives anything again. -/
theorem C11_after_close_observed (evs : List Ev) (id : Nat) (x : Sub)
    (hx : (run init evs).subs id = some x) (hs : x.sawClosed = true) :
    x.closed = true ∧ x.chan = [] :=
  (inv_run init evs inv_init id x hx).sawClosedOk hs

/-- The observation-level oracle the driver evaluates (`Obs.prefixOk`) holds of
the model in every reachable state. -/
theorem C11_oracle_holds (evs : List Ev) (id : Nat) (x : Sub) (hx : (run init evs).subs id = some x) :
    Obs.prefixOk { expected := x.backlog ++ x.since, got := x.delivered } = true := by
  have h := inv_run init evs inv_init id x hx
  simp only [Obs.prefixOk, List.isPrefixOf_iff_prefix]
  rw [← h.conserve, List.append_assoc]; exact List.prefix_append _ _

/-- The facts regenerated from blockntfns/manager.go on this run that the model
relies on: the channel capacity; the forwarder goroutine is started before the
subscription is handed to the handler (so the `wait forwarder` of `cancel()`
covers it whenever the client can be cancelled); registration goes through the
handler goroutine (`m.newSubscriptions <- sub`), the client map is only mutated
by the two handler-side functions, which only `subscriptionHandler` calls; the
backlog lookup (`NotificationsSinceHeight`) is made by the handler-side
registration function and nowhere else, so snapshot, backlog push and map insert
are one step of the handler goroutine; the backlog is pushed before the client is
inserted into the map; fan-out reaches every client of the map; pushes and
forwards are blocking (nothing dropped); the only send into a client's channel is
the one in the forwarder goroutine that `NewSubscription` starts (followed
through `go` into a named function or method), and while it holds a notification
it also listens to the client's and the manager's quit (so `cancel()`'s wait for
it ends even if the client never reads); `cancel()` is once-guarded and is
exactly stop-queue, close-quit, wait-forwarder, close-channel, the only close of
that channel. -/
theorem C11_source_facts :
    Gen.Subs.ntfnChanCap = 20 ∧ Gen.Subs.registersViaHandler = true ∧
    Gen.Subs.forwarderBeforeRegistration = true ∧
    Gen.Subs.mapMutators = ["handleNewSubscription", "handleCancelSubscription"] ∧
    Gen.Subs.mapMutatorCallers = ["subscriptionHandler"] ∧
    Gen.Subs.backlogLookupCallers = ["handleNewSubscription"] ∧
    Gen.Subs.backlogBeforeInsert = true ∧ Gen.Subs.fanoutEveryClient = true ∧
    Gen.Subs.pushBlocking = true ∧ Gen.Subs.forwardBlocking = true ∧
    Gen.Subs.ntfnChanSendSites = 1 ∧ Gen.Subs.forwardSendQuitCases = 2 ∧
    Gen.Subs.cancelOnce = true ∧
    Gen.Subs.cancelSeq = ["s.ntfnQueue.Stop()", "close(s.quit)", "s.wg.Wait()", "close(s.ntfnChan)"] ∧
    Gen.Subs.closeChanSites = 1 ∧ chanCap = Gen.Subs.ntfnChanCap :=
  ⟨rfl, rfl, rfl, rfl, rfl, rfl, rfl, rfl, rfl, rfl, rfl, rfl, rfl, rfl, rfl, rfl⟩

/-! `Model/SubsReg.lean` opens the atomic `subscribe` step up into request / lookup / reply and lets
the caller of `NewSubscription` leave at any moment after `Stop` has closed the quit channel.  The
reply channel's capacity is the one regenerated from the source (`Gen.Subs.replyChanCap`) and the
handler sends one reply per request (`Gen.Subs.replySendSites`). -/

/-- **The handler never blocks on a client.**  In every interleaving of the handshake — the caller
giving up before the handler has taken the request, while it is inside the backlog lookup, between
lookup and reply, or never — the handler is never parked on its reply. -/
theorem C11_handler_never_blocks_on_client (evs : List Reg.Ev) :
    (Reg.run Gen.Subs.replyChanCap Reg.init evs).h ≠ .blocked :=
  (Reg.inv_run _ (by decide) _ evs Reg.inv_init).notBlocked

/-- **Stop completes during a registration.**  From every reachable state of the handshake, once
`Stop` has closed the quit channel the handler's own moves (finish the lookup, send the reply,
take the quit case) end with the handler gone, so `Stop`'s wait for it ends — whatever the caller
has done or left undone. -/
theorem C11_stop_completes_during_registration (evs : List Reg.Ev) :
    Reg.stopReturns (Reg.run Gen.Subs.replyChanCap Reg.init
      (evs ++ [.quitClose, .lookupDone, .reply, .handlerExit])) = true := by
  rw [Reg.run_append]
  simp only [Reg.stopReturns, beq_iff_eq]
  exact Reg.exit_after_quit _ (by decide) _ (Reg.inv_run _ (by decide) _ evs Reg.inv_init)

/-- **Isolation, extended to the registration reply.**  Once the handler has taken a request,
deleting every event of the caller (its receiving the reply, its giving up) from any continuation
leaves the handler where it is and the quit flag as it is: no move of the handler is enabled,
disabled or delayed by what the caller does. -/
theorem C11_reply_isolation (pre evs : List Reg.Ev)
    (htaken : (Reg.run Gen.Subs.replyChanCap Reg.init pre).c ≠ .sending) :
    (Reg.run Gen.Subs.replyChanCap Reg.init (pre ++ evs)).h =
      (Reg.run Gen.Subs.replyChanCap Reg.init (pre ++ evs.filter (fun e => !e.ofClient))).h ∧
    (Reg.run Gen.Subs.replyChanCap Reg.init (pre ++ evs)).quit =
      (Reg.run Gen.Subs.replyChanCap Reg.init (pre ++ evs.filter (fun e => !e.ofClient))).quit := by
  have hi := Reg.inv_run _ (by decide : 1 ≤ Gen.Subs.replyChanCap) _ pre Reg.inv_init
  rw [Reg.run_append, Reg.run_append]
  exact Reg.run_handler _ (by decide) evs _ _ hi hi htaken htaken rfl rfl

/-- What an unbuffered reply channel does (the reason the capacity is a source fact): the caller
leaves through the quit channel while the handler is inside the lookup, the handler then parks on
its reply for ever and `Stop` never returns. -/
theorem C11_unbuffered_reply_counterexample :
    (Reg.run 0 Reg.init [.take, .quitClose, .clientGiveUp, .lookupDone, .reply, .handlerExit]).h = .blocked ∧
    Reg.stopReturns (Reg.run 0 Reg.init [.take, .quitClose, .clientGiveUp, .lookupDone, .reply, .handlerExit]) = false := by
  decide

theorem C11_reply_source_facts : Gen.Subs.replyChanCap = 1 ∧ Gen.Subs.replySendSites = 1 := by decide

/-! Non-vacuity: concrete runs meeting the hypotheses. -/

private def n1 : Ntfn := ⟨1, true, 5⟩
private def n2 : Ntfn := ⟨2, true, 6⟩
private def n3 : Ntfn := ⟨3, false, 6⟩
private def n4 : Ntfn := ⟨4, true, 6⟩

/-- subscriber 1 (backlog n1) reads; subscriber 2 registers later and stalls; 1 is cancelled with n4 queued -/
private def demo : List Ev :=
  [.subscribe 1 4 [n1], .emit n2, .handlerFanout, .subscribe 2 0 [], .emit n3, .handlerFanout,
   .forward 1, .forward 1, .consume 1, .consume 1, .emit n4, .handlerFanout, .forward 2, .cancel 1]

example : ((run init demo).subs 1).map (·.delivered) = some [n1, n2] := rfl
example : ((run init demo).subs 1).map (·.closed) = some true := rfl
example : ((run init demo).subs 1).map (·.queue) = some [n3, n4] := rfl
example : ((run init demo).subs 2).map (fun x => (x.delivered, x.chan, x.queue, x.closed)) =
    some ([], [n3], [n4], false) := rfl
example : (run init demo).fanned = [n2, n3, n4] := rfl
/-- isolation on the demo: deleting subscriber 1's events leaves subscriber 2 as it was -/
example : (run init (demo.filter (notOf 1))).subs 2 = (run init demo).subs 2 := rfl
/-- completeness hypothesis is satisfiable: subscriber 2 is open with items pending -/
example : ((run init demo).subs 2).map (fun x => (x.closed, x.chan.length + x.queue.length)) = some (false, 2) := rfl
/-- a stalled subscriber: 25 notifications, channel holds `chanCap`, the rest stay queued, none lost -/
example :
    let evs := [Ev.subscribe 1 0 []] ++ ((List.range 25).map fun i => [Ev.emit ⟨i, true, i⟩, .handlerFanout, .forward 1]).flatten
    ((run init evs).subs 1).map (fun x => (x.chan.length, x.queue.length, x.delivered.length)) = some (20, 5, 0) := by decide +kernel
/-- the registration window: n2 is emitted while subscriber 2's backlog lookup (snapshot [n1]) is in
progress in the handler; it waits at the source, is fanned out after the registration and reaches
subscriber 2 after its backlog, and subscriber 1 as usual -/
example :
    let evs := [Ev.subscribe 1 0 [], .emit n2, .subscribe 2 4 [n1], .handlerFanout, .forward 1, .forward 2, .forward 2,
                .consume 2, .consume 2, .consume 1]
    outs init evs = [.ok, .unit, .ok, .ok, .unit, .unit, .unit, .item n1, .item n2, .item n2] ∧
    ((run init evs).subs 2).map (fun x => (x.backlog, x.since, x.delivered)) = some ([n1], [n2], [n1, n2]) := ⟨rfl, rfl⟩
/-- after stop, reads drain the channel and then report `closed` -/
example : outs init [.subscribe 1 0 [n1, n2], .forward 1, .stop, .consume 1, .consume 1, .forward 1, .consume 1] =
    [.ok, .unit, .unit, .item n1, .closed, .unit, .closed] := rfl

/-- the handshake when Stop overtakes a registration: the caller has given up, the handler is still in the
lookup (hypothesis of `C11_reply_isolation` met), and the handler's remaining moves let Stop return -/
example : (Reg.run Gen.Subs.replyChanCap Reg.init [.take, .quitClose, .clientGiveUp]).c = .gaveUp ∧
    (Reg.run Gen.Subs.replyChanCap Reg.init [.take, .quitClose, .clientGiveUp]).h = .lookup ∧
    Reg.stopReturns (Reg.run Gen.Subs.replyChanCap Reg.init
      [.take, .quitClose, .clientGiveUp, .lookupDone, .reply, .handlerExit]) = true := ⟨rfl, rfl, rfl⟩
/-- a subscriber that never reads and is behind by more than its channel holds: open, nothing lost (the
hypotheses of `C11_complete`, which has no bound on what has piled up) -/
example :
    let evs := [Ev.subscribe 1 0 []] ++ ((List.range 30).map fun i => [Ev.emit ⟨i, true, i⟩, .handlerFanout]).flatten
    ((run init evs).subs 1).map (fun x => (x.closed, x.chan.length + x.queue.length)) = some (false, 30) := by decide +kernel

end Neutrino.Subs
