/-
C19 - emitted chain events mirror how the committed chain changed.
-/
import Neutrino.Lemmas.BlockMgrNtfn
import Neutrino.Gen.BlockMgr
namespace Neutrino.BM

/-- **Connected events**: a successful filter-header write moves the store's tip and then the
in-memory tip to the stop block and announces exactly the `n` blocks it covers, in increasing
height order, each after the store write (`fstAtEmit` is the new tip). -/
theorem C19_connected (s : State) (stop n endH : Nat) (hi : idxOf s.log stop = some endH)
    (hn : n ≠ 0) (hle : n - 1 ≤ endH) :
    (cfWrite s stop n true).1.fst = endH ∧ (cfWrite s stop n true).1.ftip = ⟨stop, endH⟩ ∧
    (cfWrite s stop n true).1.log = s.log ∧
    (cfWrite s stop n true).2.ntf = connRange s.log endH (endH - (n - 1)) n := by
  rw [cfWrite_ok hi hn hle]; exact ⟨rfl, rfl, rfl, rfl⟩

/-- the events of a write are ascending, consecutive, and name the stored blocks -/
theorem C19_connected_ascending (log : List Nat) (f start n : Nat) :
    connRange log f start n = (List.range n).map (fun i => .conn (log.getD (start + i) 0) (start + i) f) := by
  induction n generalizing start with
  | zero => rfl
  | succ k ih =>
    simp only [connRange, ih, List.range_succ_eq_map, List.map_cons, List.map_map, Nat.add_zero]
    congr 1
    apply List.map_congr_left
    intro i _
    simp only [Function.comp]
    rw [Nat.add_assoc, Nat.add_comm 1 i]

/-- a failed write (wrong previous filter header, unknown stop block) announces nothing -/
theorem C19_failed_write_silent (s : State) (stop n : Nat) (ok : Bool)
    (h : (cfWrite s stop n ok).2.res = .err) : (cfWrite s stop n ok).2.ntf = [] ∧ (cfWrite s stop n ok).1.fst = s.fst := by
  rcases cfWrite_cases s stop n ok with ⟨endH, rfl, hi, hn, hle⟩ | herr
  · rw [cfWrite_ok hi hn hle] at h; cases h
  · rw [herr]; exact ⟨rfl, rfl⟩

/-- **Disconnected events**: a rollback removes exactly the headers above the target height
(the store afterwards is the prefix), whatever the filter tip. -/
theorem C19_rollback_store (s : State) (h : Nat) : (s.rollBackTo h).1.log = s.log.take (h + 1) :=
  rollBackTo_log s h

/-- one step of the rollback loop: the event names the removed tip, its height and the new tip;
the filter store and the in-memory filter tip are lowered together when the removed block's
filter header was committed (F10 repaired). -/
theorem C19_disconnected_step (h fuel : Nat) (log : List Nat) (fst : Nat) (ft : Node) (out : List Ntfn)
    (hgt : tipHeight log > h) :
    rollBack h (fuel + 1) log fst ft out =
      rollBack h fuel log.dropLast
        (if tipHeight log ≤ fst then tipHeight log - 1 else fst)
        (if tipHeight log ≤ fst then ⟨tipId log.dropLast, tipHeight log - 1⟩ else ft)
        (out ++ [.disc (tipId log) (tipHeight log) (tipId log.dropLast)]) := by
  simp only [rollBack, hgt, if_true]
  by_cases hf : tipHeight log ≤ fst <;> simp only [hf, if_true, if_false]

/-- the backlog is read from the store by height, from `h+1` up to the in-memory filter tip -/
theorem C19_backlog_shape (s : State) (h : Nat) (h0 : h ≠ 0) (hlt : h < s.ftip.height) (bl : List Node)
    (hb : backlogRange s.log (h + 1) (s.ftip.height - h) = some bl) :
    (backlog s h).res = .ok ∧ (backlog s h).bl = bl ∧ (backlog s h).best = s.ftip.height := by
  simp [backlog, h0, Nat.ne_of_gt hlt, Nat.lt_asymm hlt, hb]

/-- **Disconnected events, every state, every target height**: the events a rollback emits,
followed one by one on the chain as it was, each name the then-current tip, carry its height
and the header directly below it, and lead exactly to the chain the store holds afterwards:
one event per removed header, highest first, nothing else.  (`discReplay` is the predicate the
driver evaluates on the real system's notifications.) -/
theorem C19_disconnected (t : Tbl) (s : State) (h : Nat) :
    discReplay t [] s.log (s.rollBackTo h).2 = some (s.rollBackTo h).1.log :=
  rollBack_discReplay t h s.log.length s.log s.fst s.ftip

/-- **Strict replay of a rollback**: handed over one by one (rendezvous), the disconnected events
of `rollBackToHeight` apply strictly to the committed chain - each either names the held tip or is
for a block above it - and leave exactly the chain committed afterwards. -/
theorem rollBack_trace_strict (k fuel : Nat) (log : List Nat) (fst : Nat) (ft : Node) (hF : fst < log.length) :
    replayStrict (committedOf log fst) (rollBack k fuel log fst ft []).2.2.2
      = some (committedOf (rollBack k fuel log fst ft []).1 (rollBack k fuel log fst ft []).2.1) ∧
    (rollBack k fuel log fst ft []).2.1 < (rollBack k fuel log fst ft []).1.length :=
  have ⟨a, b, _⟩ := rollBack_view k fuel log fst ft hF
  ⟨a, b⟩

/-- the rollback loop, seen by a subscriber holding the committed chain: the disconnected events
above the filter tip are ignored, the others pop one block each; the filter store tip and the
in-memory filter tip go down together and stay inside the chain. -/
theorem rollBack_trace (k fuel : Nat) (log : List Nat) (fst : Nat) (ft : Node) (hF : fst < log.length)
    (hG : ft.height = fst) :
    replay (committedOf log fst) (rollBack k fuel log fst ft []).2.2.2
      = committedOf (rollBack k fuel log fst ft []).1 (rollBack k fuel log fst ft []).2.1 ∧
    (rollBack k fuel log fst ft []).2.1 < (rollBack k fuel log fst ft []).1.length ∧
    (rollBack k fuel log fst ft []).2.2.1.height = (rollBack k fuel log fst ft []).2.1 ∧
    (∃ j, (rollBack k fuel log fst ft []).1 = log.take j) :=
  have ⟨a, b, d, e⟩ := rollBack_view k fuel log fst ft hF
  ⟨replay_of_strict a, b, d hG, e⟩

/-- **What a subscriber sees of one `headers` message**: the notifications the loop emits, replayed
on the committed chain, give the committed chain afterwards - on every path through the loop. -/
theorem loop_trace (c : Cfg) (p : Nat) (rest : List Nat) :
    ∀ (s : State) (l : Loc) (ntf : List Ntfn), FInv s →
      ∃ new, (loop c p rest s l ntf).2 = ntf ++ new ∧
        replay (committedS s) new = committedS (loop c p rest s l ntf).1 ∧ FInv (loop c p rest s l ntf).1 := by
  induction rest with
  | nil => intro s l ntf hf; exact finish_continues c l ntf hf
  | cons h rest ih =>
    intro s l ntf hf
    show Continues s ntf (loop c p (h :: rest) s l ntf)
    cases hhd : s.hl.head? with
    | none => rw [loop_nohead hhd]; exact .same ntf rfl ⟨hf.F, hf.G⟩
    | some prev =>
      by_cases hpar : c.tbl.parent h = some prev.id
      · cases hv : c.tbl.valid h with
        | false => rw [loop_invalid hhd hpar hv]; exact .same ntf rfl ⟨hf.F, hf.G⟩
        | true =>
          rw [loop_connect hhd hpar hv]
          exact cpTest_orElse c p h _ _ ntf _ _ ⟨hf.F, hf.G⟩ (ih _ _ ntf ⟨hf.F, hf.G⟩)
      · rw [loop_fork hhd hpar]
        cases hd : reorgDecision c s p prev h rest with
        | ignore => exact .same ntf rfl ⟨hf.F, hf.G⟩
        | skip => exact ih s _ ntf hf
        | disconnect => exact .same ntf rfl ⟨hf.F, hf.G⟩
        | adopt bh =>
          obtain ⟨a, b⟩ := doReorg_trace c s p h bh hf
          -- the events of the reorganisation come first, then those of the rest of the message
          exact .after a (cpTest_orElse c p h _ _ _ 0 _ b (ih _ _ _ b))

/-- strict replay of the connected events of an aligned write: each extends the held tip -/
theorem conn_replay_strict (log : List Nat) (f : Nat) : ∀ (n start : Nat), start + n ≤ log.length →
    replayStrict (log.take start) (connRange log f start n) = some (log.take (start + n)) := by
  intro n
  induction n with
  | zero => intro start _; rfl
  | succ k ih =>
    intro start hle
    have hlt : start < log.length := Nat.lt_of_lt_of_le (Nat.lt_add_of_pos_right (Nat.succ_pos k)) hle
    simp only [connRange, replayStrict, replayStrict1_conn hlt, Option.bind_some]
    rw [ih (start + 1) (by rw [Nat.add_right_comm, Nat.add_assoc]; exact hle), Nat.add_right_comm, Nat.add_assoc]

theorem conn_replay (log : List Nat) (f : Nat) : ∀ (n start : Nat), start + n ≤ log.length →
    replay (log.take start) (connRange log f start n) = log.take (start + n) :=
  fun n start hle => replay_of_strict (conn_replay_strict log f n start hle)

/-- **One `headers` message, every path**: the notifications emitted while it is handled,
replayed on the committed chain, reproduce the committed chain afterwards. -/
theorem C19_replay_headers (c : Cfg) (s : State) (p : Nat) (hs : List Nat) (hf : FInv s) :
    replay (committedS s) (handleHeaders c s p hs).2 = committedS (handleHeaders c s p hs).1 ∧
    FInv (handleHeaders c s p hs).1 := by
  rcases handleHeaders_cases c s p hs with ⟨-, -, e⟩ | ⟨-, ps, e⟩ <;> rw [e]
  · obtain ⟨new, e1, e2, e3⟩ := loop_trace c p hs s {} [] hf
    rw [e1]; exact ⟨e2, e3⟩
  · exact ⟨rfl, hf.F, hf.G⟩

/-- **One aligned filter-header write**: the connected events extend the committed chain to the
new filter tip (the writer asks for the headers from `filter tip + 1`, i.e. `endH = fst + n`). -/
theorem C19_replay_cfwrite (s : State) (stop n endH : Nat) (hi : idxOf s.log stop = some endH)
    (hn : n ≠ 0) (hal : endH = s.fst + n) :
    replay (committedS s) (cfWrite s stop n true).2.ntf = committedS (cfWrite s stop n true).1 ∧
    FInv (cfWrite s stop n true).1 := by
  subst hal
  have hlt := (idxOf_some hi).1
  rw [cfWrite_aligned hi hn]
  exact ⟨(conn_replay s.log _ n (s.fst + 1) (by rw [Nat.add_right_comm]; exact hlt)).trans
    (congrArg (List.take · s.log) (Nat.add_right_comm ..)), hlt, rfl⟩

/-- the notifications of a run, in emission order -/
def ntfsOf (c : Cfg) (s : State) : List Ev → List Ntfn
  | [] => []
  | e :: es => (step c s e).2.ntf ++ ntfsOf c (step c s e).1 es

/-- the filter-header writer's contract: a write that succeeds starts right above the filter tip -/
def alignedEv (s : State) : Ev → Prop
  | .cfWrite stop n true => ∀ endH, idxOf s.log stop = some endH → n ≠ 0 → n - 1 ≤ endH → endH = s.fst + n
  | .importReset _ nf => nf = 0      -- imported filter headers are not announced: not a moment between events
  | _ => True

def alignedRun (c : Cfg) (s : State) : List Ev → Prop
  | [] => True
  | e :: es => alignedEv s e ∧ alignedRun c (step c s e).1 es

/-- Under the writer's contract the notifications of an event, replayed on the chain committed
before it, give the chain committed after it; the filter-tip invariant is kept by every event. -/
theorem step_trace (c : Cfg) (s : State) (e : Ev) (hf : FInv s) :
    (alignedEv s e → replay (committedS s) (step c s e).2.ntf = committedS (step c s e).1) ∧
    FInv (step c s e).1 := by
  have quiet : ∀ {A : Prop} (s' : State), s'.log = s.log → s'.fst = s.fst → s'.ftip = s.ftip →
      (A → replay (committedS s) [] = committedS s') ∧ FInv s' := fun s' a b d =>
    (committedS_append hf (a.trans (List.append_nil _).symm) b (congrArg _ d)).imp_left fun v _ => v.symm
  have hq := step_quiet c s e
  cases e with
  | headers p hs => exact (C19_replay_headers c s p hs hf).imp_left fun r _ => r
  | headersFailWrite p hs =>
    simp only [step, handleHeadersFailWrite]
    split
    · exact quiet _ rfl rfl rfl
    · exact (C19_replay_headers c s p hs hf).imp_left fun r _ => r
  | cfWrite stop n ok =>
    rcases cfWrite_cases s stop n ok with ⟨endH, rfl, hi, hn, hle⟩ | herr
    · exact ⟨fun ha => (C19_replay_cfwrite s stop n endH hi hn (ha endH hi hn hle)).1,
        by simp only [step, cfWrite_ok hi hn hle]; exact ⟨(idxOf_some hi).1, rfl⟩⟩
    · simp only [step, herr]
      exact quiet s rfl rfl rfl
  | importReset blocks nf =>
    have ⟨i, v⟩ := importReset_trace c s blocks nf hf
    exact ⟨fun ha => (v ha).symm, i⟩
  | _ => rw [hq.2]; exact quiet _ hq.1.log hq.1.fst hq.1.ftip

/-- **Events after any moment, every event list**: replaying everything the block manager emits
from a moment on, on the chain committed at that moment, gives the committed chain now. -/
theorem C19_replay_events (c : Cfg) (s : State) (es : List Ev) (hf : FInv s) (ha : alignedRun c s es) :
    replay (committedS s) (ntfsOf c s es) = committedS (run c s es) ∧ FInv (run c s es) := by
  induction es generalizing s with
  | nil => exact ⟨rfl, hf⟩
  | cons e es ih =>
    obtain ⟨a, b⟩ := step_trace c s e hf
    obtain ⟨a2, b2⟩ := ih (step c s e).1 b ha.2
    exact ⟨by simp only [ntfsOf, run]; rw [replay_append, a ha.1, a2], b2⟩

/-- the filter-tip invariant holds in every reachable state (no alignment needed for that) -/
theorem finv_run (c : Cfg) (s : State) (es : List Ev) (hf : FInv s) : FInv (run c s es) :=
  run_inv (fun s e h => (step_trace c s e h).2) es s hf

/-- `FilterTipConsistent` in every reachable state: the filter store's tip is inside the block
chain and the in-memory filter tip equals the store's (F10 repaired). -/
theorem C19_filter_tip_consistent (c : Cfg) (peers : List Peer) (es : List Ev) :
    FInv (run c (init c peers) es) := finv_run c _ es ⟨Nat.zero_lt_one, rfl⟩

/-- **The backlog half**: in a state with a consistent filter tip, the backlog offered for a height
`0 < h ≤ filter tip`, replayed on the committed chain cut at `h`, gives the committed chain. -/
theorem C19_backlog_replay (s : State) (h : Nat) (hf : FInv s) (h0 : 0 < h) (hle : h ≤ s.fst) :
    (backlog s h).res = .ok ∧
    replay ((committedS s).take (h + 1)) ((backlog s h).bl.map (fun nd => Ntfn.conn nd.id nd.height 0))
      = committedS s := by
  have e : h + 1 + (s.fst - h) = s.fst + 1 := by rw [Nat.add_right_comm, Nat.add_sub_of_le hle]
  have hF : h + 1 + (s.fst - h) ≤ s.log.length := e ▸ hf.F
  rw [committedS, committedOf_take hle]
  simp only [backlog, hf.G, Nat.ne_of_gt h0, if_false]
  by_cases he : s.fst = h
  · simp only [he, if_true]
    exact ⟨trivial, rfl⟩
  · obtain ⟨bl, hb, hr⟩ := backlogRange_some s.log 0 (s.fst - h) (h + 1) hF
    simp only [he, Nat.not_lt.mpr hle, if_false, hb, hr]
    exact ⟨trivial, (conn_replay s.log 0 (s.fst - h) (h + 1) hF).trans (congrArg (List.take · s.log) e)⟩

/-- **C19 replay, every history, every moment, every height**: for every event list `es` leading
to a moment `m`, every height `0 < h ≤` the filter tip at `m` and every event list `es'` after it
(filter-header writes starting right above the filter tip, as the writer does): replaying the
backlog offered at `m` for `h` and then every notification emitted afterwards, on the chain that
was committed at `m` cut at `h`, gives exactly the chain committed now.  A connected event for a
block already held is skipped; a disconnected event pops only if it names the current tip. -/
theorem C19_replay (c : Cfg) (peers : List Peer) (es es' : List Ev) (h : Nat) :
    let s := run c (init c peers) es
    alignedRun c s es' → 0 < h → h ≤ s.fst →
    replay (replay ((committedS s).take (h + 1)) ((backlog s h).bl.map (fun nd => Ntfn.conn nd.id nd.height 0)))
      (ntfsOf c s es') = committedS (run c s es') := by
  intro s hal h0 hle
  have hf : FInv s := C19_filter_tip_consistent c peers es
  rw [(C19_backlog_replay s h hf h0 hle).2]
  exact (C19_replay_events c s es' hf hal).1

/-- **Invariant over the fold, every batch**: with the order found in the source (tip first), at
every emission of a write covering heights `start .. start+n-1 = endH` the in-memory filter tip is
already `endH`, hence at or above the announced height - whatever the tip was before. -/
theorem C19_tip_covers_emission (log : List Nat) (start n endH m0 : Nat) (hend : start + n = endH + 1)
    (x : Nat × Nat × Nat) (hx : x ∈ cfRun endH m0 (cfSteps true log start n)) :
    x.2.2 = endH ∧ x.2.1 ≤ x.2.2 := by
  simp only [cfSteps, ↓reduceIte, cfRun] at hx
  obtain ⟨a, d⟩ := cfRun_emits endH log n start endH x hx
  exact ⟨a, a ▸ Nat.le_of_lt_succ (Nat.lt_of_lt_of_eq d hend)⟩

/-- with the tip raised AFTER the notification loop an event is observable while the in-memory tip
is still below it (the seeded regression) -/
theorem C19_tip_after_counterexample :
    (2, 2, 1) ∈ cfRun 3 1 (cfSteps false [0, 1, 2, 3] 2 2) := by decide

/-- **A subscriber that registers in the middle of a batch** (after the `k`-th event of an aligned
filter-header write, any `k`, backlog requested for any committed height `h > 0`): with the tip
raised first, the backlog already covers the whole batch, the remaining live events are for blocks
it holds and are skipped, and the replay gives exactly the committed chain - no block skipped. -/
theorem C19_midbatch_subscriber (s : State) (stop n endH k h : Nat) (hf : FInv s)
    (hi : idxOf s.log stop = some endH) (hn : n ≠ 0) (hal : endH = s.fst + n) (h0 : 0 < h) (hle : h ≤ s.fst) :
    replay (replay ((committedS s).take (h + 1))
        ((cfProbe true s stop n h).bl.map (fun nd => Ntfn.conn nd.id nd.height 0)))
      ((cfWrite s stop n true).2.ntf.drop k) = committedS (cfWrite s stop n true).1 := by
  subst hal
  have hlt := (idxOf_some hi).1
  have hle2 : h ≤ s.fst + n := Nat.le_trans hle (Nat.le_add_right ..)
  have hw := cfWrite_aligned hi hn
  have hb := (C19_backlog_replay (cfWrite s stop n true).1 h (C19_replay_cfwrite s stop n _ hi hn rfl).2 h0
    (by rw [hw]; exact hle2)).2
  simp only [cfProbe, if_true, hw, committedS] at hb ⊢
  rw [committedOf_take hle, ← committedOf_take hle2, hb]
  -- the backlog already covers the batch: the live events are for blocks held
  apply replay_held
  intro ev hev
  obtain ⟨i, hi, rfl⟩ := List.mem_map.mp (C19_connected_ascending .. ▸ List.mem_of_mem_drop hev)
  exact ⟨_, _, _, rfl, by
    rw [length_committedOf hlt, Nat.add_right_comm]; exact Nat.succ_lt_succ (Nat.add_lt_add_left (List.mem_range.mp hi) _)⟩

/-- with the tip raised after the loop the same subscriber misses a committed block: stored
`[0,1,2,3]`, filter tip 1, write of blocks 2 and 3, registration after the first event with
height 1 - old-tip backlog is empty, the remaining live event is block 3, block 2 is never heard of -/
theorem C19_midbatch_gap_counterexample :
    let s : State := { log := [0, 1, 2, 3], fst := 1, ftip := ⟨1, 1⟩ }
    replay (replay ((committedS s).take 2) ((cfProbe false s 3 2 1).bl.map (fun nd => Ntfn.conn nd.id nd.height 0)))
      ((cfWrite s 3 2 true).2.ntf.drop 1) = [0, 1, 3] ∧ committedS (cfWrite s 3 2 true).1 = [0, 1, 2, 3] := by
  decide

/-- **A backlog request is enabled at every emission point of every batch**: with the order found
in the source (acquire, raise the tip, release, then announce) the writer never holds
`newFilterHeadersMtx` while it waits for an event to be taken, so the subscription manager can
serve a new subscription (`NotificationsSinceHeight` takes the read lock) between any two events -
no deadlock between the writer's rendezvous and the subscriber's lock. -/
theorem C19_backlog_enabled_during_batch (log : List Nat) (start n : Nat) (held0 : Bool) (x : Nat × Bool)
    (hx : x ∈ cfLockRun held0 (cfLockSteps true log start n)) : x.2 = true := by
  simp only [cfLockSteps, ↓reduceIte, List.cons_append, List.nil_append, cfLockRun] at hx
  have := cfLockRun_emits log n start false x hx
  simpa using this

/-- with the release moved behind the loop every emission happens with the mutex held: a backlog
request arriving then blocks, the writer waits for the blocked manager to take the next event -/
theorem C19_backlog_blocked_counterexample :
    cfLockRun false (cfLockSteps false [0, 1, 2, 3] 2 2) = [(2, false), (3, false)] := by decide

/-- **Rendezvous (capacity 0), every schedule**: whenever the consumer holds `taken` events the
handler has completed exactly the work that produced them - its stores and in-memory tips are the
post-state of the emission just received, it is never ahead.  Hence a backlog request served by
the consumer at any moment sees the state right after the last event it took, and backlog plus
the events still to come replay (`C19_replay`, `C19_midbatch_subscriber`). -/
theorem C19_rendezvous_no_lag (total : Nat) (sched : List NtfnChan.Act) :
    (NtfnChan.run 0 total {} sched).done = (NtfnChan.run 0 total {} sched).taken ∧
    (NtfnChan.run 0 total {} sched).queued = 0 := by
  have ⟨a, b⟩ := chan_invariant 0 total sched {} ⟨rfl, Nat.le_refl _⟩
  have q := Nat.le_zero.mp b
  exact ⟨by rw [a, q]; rfl, q⟩

/-- with any buffer the handler can be ahead: capacity 2, two sends, one receive - at that receive
the handler's state is the post-state of the SECOND emission -/
theorem C19_buffered_lag_counterexample :
    NtfnChan.run 2 2 {} [.send, .send, .recv] = { done := 2, queued := 1, taken := 1 } := by decide

/-- what that does to a subscriber (the seeded regression): stored `[0,1,2,3]` with all filter
headers committed; the sync peer's heavier branch `4,5,6` off block 1 is adopted (events: 3 and 2
disconnected) and the filter headers of 4 and 5 are committed (events: 4 and 5 connected).  A
subscriber holding the chain up to height 1 whose backlog request is served while all four events
are still buffered gets `4,5` as backlog and then "3 disconnected at height 3", where it holds 5:
the stream cannot be applied.  Served after the events were handed over (rendezvous) it can. -/
theorem C19_buffered_subscriber_counterexample :
    let t : Tbl := { parent := fun i => match i with | 1 => some 0 | 2 => some 1 | 3 => some 2 | 4 => some 1 | 5 => some 4 | 6 => some 5 | _ => none
                     work := fun _ => 2, valid := fun _ => true, fresh := fun _ => true }
    let c : Cfg := { tbl := t, cps := [], win := 8 }
    let s0 : State := { log := [0, 1, 2, 3], hl := [⟨3, 3⟩, ⟨2, 2⟩, ⟨1, 1⟩, ⟨0, 0⟩], sync := some 1,
                        peers := [{ id := 1, cand := true }], htip := ⟨3, 3⟩, ftip := ⟨3, 3⟩, fst := 3 }
    let a := step c s0 (.headers 1 [4, 5, 6])
    let b := step c a.1 (.cfWrite 5 2 true)
    let evs := a.2.ntf ++ b.2.ntf
    let bl := (backlog b.1 1).bl.map (fun nd => Ntfn.conn nd.id nd.height 0)
    b.1.log = [0, 1, 4, 5, 6] ∧ evs = [.disc 3 3 2, .disc 2 2 1, .conn 4 2 3, .conn 5 3 3] ∧
    ((replayStrict [0, 1] bl).bind (fun v => replayStrict v evs)) = none ∧
    ((replayStrict [0, 1] bl).bind (fun v => replayStrict v [])) = some [0, 1, 4, 5] := by
  decide

/-- **Remove, then notify - every rollback**: each disconnected event of `rollBackToHeight` is for a
height that the block header store no longer reaches when the rollback is over, and (fold
invariant) was emitted when the store had already been cut below it. -/
theorem C19_disconnected_after_removal (k fuel : Nat) (log : List Nat) (fst : Nat) (ft : Node) (e : Ntfn)
    (he : e ∈ (rollBack k fuel log fst ft []).2.2.2) :
    ∃ id h nt, e = .disc id h nt ∧ (rollBack k fuel log fst ft []).1.length ≤ h ∧ h < log.length := by
  have key := rollBack_invariant k
    (fun l _ _ o => l.length ≤ log.length ∧ ∀ e ∈ o, ∃ id h nt, e = .disc id h nt ∧ l.length ≤ h ∧ h < log.length)
    ?_ fuel log fst ft [] ⟨Nat.le_refl _, fun _ he => nomatch he⟩
  · exact key.2 e he
  intro l _ _ o hgt ⟨h1, h2⟩
  have hdl : l.dropLast.length = tipHeight l := List.length_dropLast
  have hpos : 0 < l.length - 1 := Nat.zero_lt_of_lt hgt
  have hlt : tipHeight l < l.length := Nat.sub_lt (Nat.zero_lt_of_lt (Nat.lt_of_sub_pos hpos)) Nat.zero_lt_one
  have hle : l.dropLast.length ≤ l.length := Nat.le_trans (Nat.le_of_eq hdl) (Nat.le_of_lt hlt)
  refine ⟨Nat.le_trans hle h1, fun e he => ?_⟩
  rcases List.mem_append.mp he with he | he
  · obtain ⟨id, h, nt, e1, e2, e3⟩ := h2 e he
    exact ⟨id, h, nt, e1, Nat.le_trans hle e2, e3⟩
  · rw [List.mem_singleton.mp he]
    exact ⟨_, _, _, rfl, Nat.le_of_eq hdl, Nat.lt_of_lt_of_le hlt h1⟩

/-- the statement order regenerated from blockmanager.go on this run: `writeCFHeadersMsg` writes the
store, then raises `filterHeaderTip(+Hash)` under its mutex, then notifies; `rollBackToHeight`
lowers the in-memory tip with the store; `blockNtfnChan` is made without a capacity (rendezvous) -/
theorem C19_source_facts :
    Gen.BlockMgr.cfWriteBeforeNotify = true ∧ Gen.BlockMgr.cfTipBeforeNotify = true ∧
    Gen.BlockMgr.rollbackLowersFilterTip = true ∧ Gen.BlockMgr.blockNtfnChanUnbuffered = true ∧
    Gen.BlockMgr.rollbackRemovesBeforeNotify = true ∧ Gen.BlockMgr.cfUnlockBeforeNotify = true := by decide

/-! Non-vacuity -/
example : (cfWrite { log := [0, 1, 2, 3] } 2 2 true).2.ntf = [.conn 1 1 2, .conn 2 2 2] := by decide +kernel
example : (({ log := [0, 1, 2, 3], fst := 2, ftip := ⟨2, 2⟩ } : State).rollBackTo 0).2
    = [.disc 3 3 2, .disc 2 2 1, .disc 1 1 0] := by decide +kernel
example : (({ log := [0, 1, 2, 3], fst := 2, ftip := ⟨2, 2⟩ } : State).rollBackTo 0).1.ftip = ⟨0, 0⟩ := by decide +kernel
example : (backlog { log := [0, 1, 2, 3], fst := 3, ftip := ⟨3, 3⟩ } 1).bl = [⟨2, 2⟩, ⟨3, 3⟩] := by decide +kernel

end Neutrino.BM
