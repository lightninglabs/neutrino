/-
C12 - the peer ranking as the CODE defines it (`AddPeer`, `Punish`, `Reward`, `ResetRanking` of
query/peer_rank.go, translated on every run into Gen/TransRank.lean with the map field threaded
through) is the ranking of the dispatcher model, which `C12_rank`, `C12_rank_scores` and
`C12_score_moves` are about; and the work queue's ordering as the code defines it (`workQueue.Less`,
`queryJob.Index`; query/workqueue.go, worker.go, Gen/TransQueue.lean) is the comparison the model's
`insertJob` makes.
-/
import Neutrino.Props.C12
import Neutrino.Lemmas.TransRank
import Neutrino.Lemmas.TransQueue
namespace Neutrino.Disp
open Neutrino.Gen.TransRank Neutrino.Gen.TransQueue Neutrino.GoInt

/-- **The four ranking methods are the model's**, for every injective naming `enc` of peer
addresses and every ranking map (for `Punish`: scores below 2^64 - 1, the code adds on `uint64`). -/
theorem C12_trans_peerRanking (enc : String → Nat) (henc : ∀ a b, enc a = enc b → a = b)
    (r : List (String × Nat)) (k : String) :
    absRank enc (peerRanking_AddPeer k r) = addPeer (absRank enc r) (enc k) ∧
    ((∀ e ∈ r, e.2 + 1 < 2 ^ 64) → absRank enc (peerRanking_Punish k r) = punish (absRank enc r) (enc k)) ∧
    absRank enc (peerRanking_Reward k r) = reward (absRank enc r) (enc k) ∧
    absRank enc (peerRanking_ResetRanking k r) = resetRank (absRank enc r) (enc k) :=
  ⟨trans_addPeer enc henc r k, trans_punish enc henc r k, trans_reward enc henc r k, trans_resetRank enc henc r k⟩

/-- `C12_score_moves` for the code's own methods: a reward lowers, a punishment raises the score of
the peer by one within [bestScore, worstScore], a reset restores the default, nobody else moves. -/
theorem C12_trans_score_moves (enc : String → Nat) (henc : ∀ a b, enc a = enc b → a = b)
    (r : List (String × Nat)) (k : String) (sc : Nat) (hr : ∀ e ∈ r, e.2 + 1 < 2 ^ 64)
    (h : (absRank enc r).lookup (enc k) = some sc) :
    scoreOf (absRank enc (peerRanking_Reward k r)) (enc k) = (if sc = Gen.Dispatcher.bestScore then sc else sc - 1) ∧
    scoreOf (absRank enc (peerRanking_Punish k r)) (enc k) = (if sc = Gen.Dispatcher.worstScore then sc else sc + 1) ∧
    scoreOf (absRank enc (peerRanking_ResetRanking k r)) (enc k) = Gen.Dispatcher.defaultScore ∧
    ∀ q, q ≠ enc k → scoreOf (absRank enc (peerRanking_Reward k r)) q = scoreOf (absRank enc r) q ∧
      scoreOf (absRank enc (peerRanking_Punish k r)) q = scoreOf (absRank enc r) q ∧
      scoreOf (absRank enc (peerRanking_ResetRanking k r)) q = scoreOf (absRank enc r) q := by
  rw [trans_reward enc henc, trans_punish enc henc r k hr, trans_resetRank enc henc]
  exact C12_score_moves (absRank enc r) (enc k) sc h

/-- the score `Order` sorts by (map entry, or the default for an unknown peer) is `scoreOf` -/
theorem C12_trans_scoreOf (enc : String → Nat) (henc : ∀ a b, enc a = enc b → a = b) (r : List (String × Nat)) (k : String) :
    (if mhas r k then mlookup r k else Gen.Dispatcher.defaultScore) = scoreOf (absRank enc r) (enc k) :=
  trans_scoreOf enc henc r k

/-! satisfiable, and the translated methods compute -/
example : peerRanking_Punish "a" (peerRanking_AddPeer "a" []) = [("a", 5)] := by decide +kernel
example : peerRanking_Reward "a" [("a", 0), ("b", 3)] = [("a", 0), ("b", 3)] := by decide +kernel
example : peerRanking_Punish "a" [("b", 3), ("a", 8)] = [("b", 3), ("a", 8)] := by decide +kernel
example : peerRanking_ResetRanking "b" [("b", 3), ("a", 8)] = [("b", 4), ("a", 8)] := by decide +kernel
example : ∀ e ∈ [("b", 3), ("a", 8)], e.2 + 1 < 2 ^ 64 := by decide +kernel

/-- **`Less` is "strictly smaller job index"**: for in-range positions it compares the `Index()` of the
two tasks, `Index()` of a `queryJob` is its `index` field, and the comparison is the one the model's
`insertJob` makes when it places a new job (so the queue the dispatcher theorems are about is ordered as the
code's heap is). -/
theorem C12_trans_workQueue_Less (tasks : List Atom) (index : Atom → Nat) (i j : Nat) (n : Nat)
    (job : Atom → Job) (a b : Atom) (xs : List Job) :
    workQueue_Less (i : Int) (j : Int) tasks index
      = decide (index (tasks.getD i default) < index (tasks.getD j default)) ∧
    queryJob_Index n = n ∧
    insertJob (job a) (job b :: xs)
      = (if workQueue_Less 0 1 [a, b] (fun t => queryJob_Index (job t).idx) = true
         then job a :: job b :: xs else job b :: insertJob (job a) xs) :=
  ⟨trans_less tasks index i j, trans_index n, trans_insertJob_step job a b xs⟩

/-- a strict order on the job indices: never `Less(i, i)`, and of two positions with different indices
exactly one is `Less` than the other (what `container/heap` needs to pop the smallest index first) -/
theorem C12_trans_workQueue_Less_strict (tasks : List Atom) (index : Atom → Nat) (i j : Nat) :
    workQueue_Less (i : Int) (i : Int) tasks index = false ∧
    (index (tasks.getD i default) ≠ index (tasks.getD j default) →
      (workQueue_Less (i : Int) (j : Int) tasks index = !workQueue_Less (j : Int) (i : Int) tasks index)) := by
  rw [trans_less, trans_less, trans_less]
  refine ⟨decide_eq_false (Nat.lt_irrefl _), fun h => ?_⟩
  rcases Nat.lt_or_gt_of_ne h with h1 | h1
  · rw [decide_eq_true h1, decide_eq_false (Nat.lt_asymm h1)]; rfl
  · rw [decide_eq_false (Nat.lt_asymm h1), decide_eq_true h1]; rfl

example : workQueue_Less 0 1 [7, 9] (fun t => t * 10) = true := by decide +kernel
example : workQueue_Less 1 0 [7, 9] (fun t => t * 10) = false := by decide +kernel

end Neutrino.Disp
