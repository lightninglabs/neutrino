/-
C14 - the import's region arithmetic in terms of the functions the CODE defines
(`determineProcessingRegions`, `determineDivergenceSyncModes`, `targetHeightToImportSourceIndex`,
translated from chainimport/ on every run, Gen/TransImport.lean).
-/
import Neutrino.Props.C14
import Neutrino.Lemmas.TransImport
namespace Neutrino.Import
open Neutrino.Gen.TransImport Neutrino.GoInt

/-- **`(*headersImport).determineProcessingRegions`** computes the model's `regions` (the function
every C14 theorem about `importRun` goes through): with the metadata and both chain tips read
successfully and both tips below 2^32 - 1, the result is non-nil and error-free, records the
import range and the effective tip, and its divergence / new-headers regions are `regions F b f`
for every file with the metadata's end height. -/
theorem C14_trans_determineProcessingRegions (md : T_chainimport_headerMetadata) (bh : Option T_wire_BlockHeader)
    (fh : Atom) (b f : Nat) (hb : b + 1 < 2 ^ 32) (hf : f + 1 < 2 ^ 32) (F : File) (hF : endHeight F = md.endHeight) :
    ∃ R, determineProcessingRegions (some md, false) (bh, b, false) (fh, f, false) = (some R, false) ∧
      R.importStartHeight = (deref md.importMetadata).startHeight ∧ R.importEndHeight = md.endHeight ∧
      R.effectiveTip = min b f ∧
      (absRegion R.divergence, absRegion R.newHeaders) = regions F b f :=
  trans_regions md bh fh b f hb hf F hF

/-- a failing metadata or chain-tip lookup fails the computation and returns no regions -/
theorem C14_trans_determineProcessingRegions_err (m : Option T_chainimport_headerMetadata × Bool)
    (bt : Option T_wire_BlockHeader × Nat × Bool) (ft : Atom × Nat × Bool)
    (h : m.2 = true ∨ bt.2.2 = true ∨ ft.2.2 = true) : determineProcessingRegions m bt ft = (none, true) := by
  obtain ⟨_, e1⟩ := m
  obtain ⟨_, _, e2⟩ := bt
  obtain ⟨_, _, e3⟩ := ft
  exact first_flag_set h

/-- **`determineDivergenceSyncModes`**: the leading store is verified, the lagging one appended to -/
theorem C14_trans_determineDivergenceSyncModes (b f : Nat) :
    absVerify (determineDivergenceSyncModes b f).verify
      = (if b > f then Verify.blockOnly else if b < f then Verify.filterOnly else Verify.both) ∧
    absMode (determineDivergenceSyncModes b f).append
      = (if b > f then Mode.filterOnly else if b < f then Mode.blockOnly else Mode.both) :=
  ⟨trans_syncModes_verify b f, syncModes_cases (fun s => absMode s.append) b f⟩

/-- **`(*headersImport).validateChainContinuity` as the code spells it is the model's `continuity`**
(an error exactly when the model reports one), for every file and all stores with readable tips below
2^32 - 1, with the two checks it delegates to answering as the model's `connects` and `verifyAt`. -/
theorem C14_trans_validateChainContinuity (F : File) (st : Stores) (md : T_chainimport_headerMetadata)
    (im : T_chainimport_importMetadata) (bh : Option T_wire_BlockHeader) (fh : Atom) (b f : Nat)
    (hmd : md.importMetadata = some im) (hs : im.startHeight = F.bstart) (he : md.endHeight = endHeight F)
    (hb : bChainTip st = some b) (hf : fChainTip st = some f) (hb32 : b + 1 < 2 ^ 32) (hf32 : f + 1 < 2 ^ 32) :
    validateChainContinuity (some md, false) (bh, b, false) (fh, f, false)
        (fun s t _ => !connects F st s t) (fun h _ => !verifyAt F st .both h)
      = (continuity F st).isSome :=
  trans_continuity F st md im bh fh b f hmd hs he hb hf hb32 hf32

/-- a failing metadata or chain-tip lookup makes `validateChainContinuity` fail -/
theorem C14_trans_validateChainContinuity_err (m : Option T_chainimport_headerMetadata × Bool)
    (bt : Option T_wire_BlockHeader × Nat × Bool) (ft : Atom × Nat × Bool)
    (f4 : Nat → Nat → Option T_chainimport_headerMetadata → Bool) (f5 : Nat → Nat → Bool)
    (h : m.2 = true ∨ bt.2.2 = true ∨ ft.2.2 = true) : validateChainContinuity m bt ft f4 f5 = true := by
  obtain ⟨_, e1⟩ := m
  obtain ⟨_, _, e2⟩ := bt
  obtain ⟨_, _, e3⟩ := ft
  exact first_flag_set h

/-- **`targetHeightToImportSourceIndex`** is `h - start` for a height inside the file and WRAPS
below it (uint32): the code itself has no guard (F7's neighbourhood) -/
theorem C14_trans_targetHeightToImportSourceIndex (h s : Nat) :
    (s ≤ h → targetHeightToImportSourceIndex h s = h - s) ∧
    (h < s → s ≤ 2 ^ 32 → targetHeightToImportSourceIndex h s = h + 2 ^ 32 - s) :=
  ⟨trans_sourceIndex h s, trans_sourceIndex_wraps h s⟩

example : determineProcessingRegions (some { importMetadata := some ⟨0, 0, 0, 0⟩, endHeight := 9, headerSize := 80, headersCount := 10 }, false)
    (none, 3, false) (0, 5, false)
    = (some { importStartHeight := 0, importEndHeight := 9, effectiveTip := 3,
              divergence := ⟨4, 5, true, ⟨K_chainimport_verifyFilterOnly, K_chainimport_appendBlockOnly⟩⟩,
              newHeaders := ⟨6, 9, true, ⟨0, K_chainimport_appendBlockAndFilter⟩⟩ }, false) := by decide +kernel
example : (3 : Nat) + 1 < 2 ^ 32 := by decide

end Neutrino.Import
