/-
Property C03, the region "the mismatch-resolution loop scans EVERY position of
the cfheaders responses": which peers end up banned and which batch is committed
for every family of responses in which the liars sit at any number of different
positions of one batch.
-/
import Neutrino.Props.C03
namespace Neutrino.CFHeaders

/-- Every responding peer serves, at every position, a filter that hashes to what
it advertised (nobody is silent or self-inconsistent: each false value can only
be exposed by the block).  Then — for every number of liars, lying at ANY
positions of the batch (the same one, neighbouring ones, the first and the last),
every hash function, every state satisfying the invariant, every order of the
peer map and every pick — the batch committed is the honest one, EVERY liar is
banned (not only those lying at the first position where the responses differ)
and no honest peer is.  The recorded shape `detectBadPeers-early-return` cannot
occur in such a round, so no hypothesis about it is needed. -/
theorem C03_honest_wins_all_self_consistent (H : FHash → Hdr → Hdr) (s : St) (net : Net) (truth : Nat → FHash)
    (hi : Inv H s) (hnd : s.blocks.Nodup)
    (hsc : ∀ i p, (roundOf s net truth).responding p = true → (roundOf s net truth).phase1Bad p i = false) :
    HonestWinsAt H s net truth := by
  apply C03_honest_wins_partial H s net truth hi hnd
  unfold Round.shapeEarlyReturn
  rw [List.any_eq_false]
  intro i _
  -- nobody who responds is silent or self-inconsistent at `i`: the first half of the shape fails
  have h1 : ((roundOf s net truth).peers.any
      fun p => (roundOf s net truth).responding p && (roundOf s net truth).phase1Bad p i) = false :=
    List.any_eq_false.mpr fun p _ h => by
      obtain ⟨hr, hb⟩ := Bool.and_eq_true_iff.mp h
      rw [hsc i p hr] at hb
      cases hb
  rw [h1, Bool.false_and]
  exact Bool.false_ne_true

namespace ExScan
/-- three blocks to fetch; true filter hashes 7, 8, 9 -/
def s : St := { blocks := [0, 1, 2, 3], fstore := [1], fblk := [0] }
def truth : Nat → FHash := fun h => 6 + h
/-- peer 1 honest; peer 2 lies at the LAST position only, peer 3 at the FIRST
position only, peer 4 in the middle only; every false filter is served and
hashes to what was advertised, and is rejected by the block -/
def net (pick : Nat) : Net :=
  { peers := [2, 1, 4, 3]
    resps := fun p =>
      if p = 2 then [⟨true, 1, [7, 8, 19]⟩] else if p = 3 then [⟨true, 1, [17, 8, 9]⟩]
      else if p = 4 then [⟨true, 1, [7, 18, 9]⟩] else [⟨true, 1, [7, 8, 9]⟩]
    served := fun p h =>
      if p = 2 ∧ h = 3 then some 19 else if p = 3 ∧ h = 1 then some 17
      else if p = 4 ∧ h = 2 then some 18 else some (6 + h)
    verify := fun f _ => if f ≥ 17 then .bad else .ok 0
    getBlock := fun _ => true
    pick := pick }
end ExScan

/-- the hypotheses of `C03_honest_wins_all_self_consistent` are satisfiable with
liars at the first, a middle and the last position, and the model computes what
the theorem says: all three liars banned (in the order of the positions at which
they are exposed), the honest batch committed, whatever the pick -/
example :
    (roundOf ExScan.s (ExScan.net 0) ExScan.truth).hyp = true ∧
    (∀ i ∈ List.range 3, ∀ p ∈ [1, 2, 3, 4],
      (roundOf ExScan.s (ExScan.net 0) ExScan.truth).phase1Bad p i = false) ∧
    ExScan.s.blocks.Nodup ∧
    (tipRound Cex.H ExScan.s (ExScan.net 0)).1.fstore = [1, 107, 10708, 1070809] ∧
    (tipRound Cex.H ExScan.s (ExScan.net 0)).1.bans = [(3, 3), (4, 3), (2, 3)] ∧
    (tipRound Cex.H ExScan.s (ExScan.net 2)).1.fstore = [1, 107, 10708, 1070809] := by decide +kernel

end Neutrino.CFHeaders
