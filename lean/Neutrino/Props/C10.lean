/-
C10 — every UTXO-scan request is answered, once, with the true fate of its outpoint.

Clauses:
* the answer is right (`C10_answer`; exact form `C10_answer_exact_partial`, falsified for duplicate requests with
  different start heights: `C10_answer_exact_counterexample`);
* a request is answered at most once (`C10_once`) and the request object hands the first answer out, to every call
  (`C10_result_first`, `C10_deliver_drops_second`, `C10_result_idempotent`);
* no request is lost: at every moment each request that entered is queued, held by the reporter, or has been
  delivered to (`C10_none_lost`); once the manager is idle or stopped every one has been delivered to
  (`C10_all_answered_partial`, failure paths included);
* every request is answered: falsified by the start-height-above-tip spin (`C10_all_answered_counterexample`); the
  spin is the only way not to finish (`C10_spin_only_above_tip`, `C10_no_spin_partial`).
-/
import Neutrino.Lemmas.UtxoPerm
import Neutrino.Lemmas.UtxoExact
import Neutrino.Lemmas.UtxoReaders
import Neutrino.Gen.Utxo
namespace Neutrino.Utxo

/-! Example world (non-vacuity): tx 1 (two outputs) is created at height 0, output 0 is spent at height 2 by tx 2;
two requests for (1,0) and one for (7,0) are queued before `Start`, one for (1,1) arrives during the second
`GetBlockHash` call with a start height that has already been passed (it is served by the next batch). -/

def exW : World where
  chain := [[⟨1, [], 2⟩], [], [⟨2, [⟨1, 0⟩], 1⟩], []]
  tip := fun _ => 3
  arrive := fun k => if k = 2 then [⟨4, ⟨1, 1⟩, 0⟩] else []
  stopAt := fun _ => false
  hashErr := fun _ => false
  fm := fun _ _ _ => some true
  blockErr := fun _ => false

def exInit : List Req := [⟨1, ⟨1, 0⟩, 0⟩, ⟨2, ⟨1, 0⟩, 0⟩, ⟨3, ⟨7, 0⟩, 1⟩]

theorem exW_filterSound : FilterSound exW :=
  fun _ _ _ _ _ _ h => Bool.noConfusion (Option.some.inj h)

theorem exW_arrived (k : Nat) : arrived exW k = if 2 ≤ k then [⟨4, ⟨1, 1⟩, 0⟩] else [] := by
  match k with
  | 0 => rfl
  | 1 => rfl
  | k + 2 =>
    rw [if_pos (Nat.le_add_left 2 k)]
    induction k with
    | zero => rfl
    | succ k ih =>
      show arrived exW (k + 2) ++ (if k + 3 = 2 then [⟨4, ⟨1, 1⟩, 0⟩] else []) = [⟨4, ⟨1, 1⟩, 0⟩]
      rw [ih, if_neg (Nat.succ_ne_zero k ∘ Nat.succ.inj ∘ Nat.succ.inj)]
      rfl

/-- **Every delivery of every run** (any chain, any tip movement, any arrivals, `Stop`, failures, any sound filter):
an error, or the earliest spend of the outpoint in `[start height, last scanned height]`, or — when there is none —
the creating output (located in the request's own start block or, for duplicates sharing a batch, in another block
of the chain). -/
theorem C10_answer (w : World) (hf : FilterSound w) (sf mf : Nat) (init : List Req) :
    ∀ d ∈ (run w sf mf init).2.out, delivOk w.chain d :=
  run_answers (answers_ok w) (.trivial w) (fun _ _ _ _ _ => trivial) hf sf mf init trivial

example : FilterSound exW ∧ (run exW 20 10 exInit).1 = .idle ∧
    (run exW 20 10 exInit).2.out.map (fun d => (d.req.id, d.res)) =
      [(1, .ok (.spent 2 0 2)), (2, .ok (.spent 2 0 2)), (3, .ok .empty), (4, .ok (.output 0 0))] :=
  ⟨exW_filterSound, by decide +kernel⟩

/-- Full statement "the answer is exactly the fate seen from the request's own start height" is false when two
requests for one outpoint with different start heights share a batch: the later one is told about the output its
own start block does not create. -/
theorem C10_answer_exact_counterexample :
    ∃ (w : World) (init : List Req), FilterSound w ∧ ∃ d ∈ (run w 20 20 init).2.out, ¬ delivExact w.chain d :=
  ⟨{ chain := [[⟨1, [], 1⟩], []], tip := fun _ => 1, arrive := fun _ => [], stopAt := fun _ => false,
     hashErr := fun _ => false, fm := fun _ _ _ => some true, blockErr := fun _ => false },
   [⟨1, ⟨1, 0⟩, 0⟩, ⟨2, ⟨1, 0⟩, 1⟩],
   fun _ _ _ _ _ _ h => Bool.noConfusion (Option.some.inj h), by decide +kernel⟩

/-- With the excluded shape as hypothesis (duplicate requests for an outpoint name the same start height) every
non-error answer is exactly the fate: the earliest spend in `[start, last scanned]`, else the output created in the
start block, else empty. -/
theorem C10_answer_exact_partial (w : World) (hf : FilterSound w) (sf mf : Nat) (init : List Req)
    (hsb : ∀ k, SameBirth (init ++ arrived w k)) :
    ∀ d ∈ (run w sf mf init).2.out, delivExact w.chain d :=
  run_x w hf sf mf init hsb

example : FilterSound exW ∧ (∀ k, SameBirth (exInit ++ arrived exW k)) ∧ (run exW 20 10 exInit).1 = .idle ∧
    (run exW 20 10 exInit).2.out.length = 4 := by
  refine ⟨exW_filterSound, ?_, by decide +kernel⟩
  intro k
  rw [exW_arrived]
  unfold SameBirth
  split <;> decide +kernel

/-- requests with distinct ids receive at most one delivery each -/
theorem C10_once (w : World) (sf mf : Nat) (init : List Req)
    (hnd : ∀ k, ((init ++ arrived w k).map (·.id)).Nodup) :
    ((run w sf mf init).2.out.map (fun d => d.req.id)).Nodup := by
  have hp := (run_cons w sf mf init).perm
  have hnd' : ((holds (run w sf mf init).2).map (·.id)).Nodup := ((hp.map _).nodup_iff).2 (hnd _)
  have hsub : ((run w sf mf init).2.out.map (·.req)).Sublist (holds (run w sf mf init).2) :=
    List.sublist_append_right _ _
  have := List.Nodup.sublist (hsub.map (·.id)) hnd'
  rw [List.map_map] at this
  exact this

example : (∀ k, ((exInit ++ arrived exW k).map (·.id)).Nodup) ∧ (run exW 20 10 exInit).2.out.length = 4 := by
  refine ⟨?_, by decide +kernel⟩
  intro k
  rw [exW_arrived]
  split <;> decide +kernel

/-- the first delivery is what `Result` returns -/
theorem C10_result_first (o : ReqObj) (r : Res) (h : o = {}) : ((o.deliver r).result).2 = some r := by
  subst h; rfl

/-- a second delivery to the same request object is dropped -/
theorem C10_deliver_drops_second :
    ∀ r1 r2, (({} : ReqObj).deliver r1).deliver r2 = ({} : ReqObj).deliver r1 := fun _ _ => rfl

/-- once a `Result` call has returned `r`, every later call returns `r` and leaves the object as it is (any object
state, any deliveries in between being dropped or not) -/
theorem C10_result_idempotent (o : ReqObj) (r : Res) (h : (o.result).2 = some r) :
    o.result.1.result = (o.result.1, some r) := by
  obtain ⟨chan, cache⟩ := o
  cases cache <;> cases chan <;> cases h <;> rfl

/-- ... and so do `n` further calls -/
theorem C10_result_idempotent_iter (o : ReqObj) (r : Res) (h : (o.result).2 = some r) :
    ∀ n, Nat.repeat (fun p : ReqObj × Option Res => p.1.result) n o.result = (o.result.1, some r)
  | 0 => Prod.ext rfl h
  | n + 1 => by
    show (Nat.repeat (fun p : ReqObj × Option Res => p.1.result) n o.result).1.result = _
    rw [C10_result_idempotent_iter o r h n]
    exact C10_result_idempotent o r h

example : let o := ({} : ReqObj).deliver (.ok (.spent 2 0 2))
    o.result.2 = some (.ok (.spent 2 0 2)) ∧ o.result.1.result.2 = some (.ok (.spent 2 0 2)) ∧
    (o.result.1.deliver (.err .shutdown)).result.2 = some (.ok (.spent 2 0 2)) := by decide +kernel

/-- **Every `Result` call on a request returns the same answer**: whatever the number of readers, the
order in which they complete and the deliveries in between (a second delivery is dropped or sits in
the channel unread), any two answers handed out are equal.  (`C10_result_idempotent` for any number of
readers in any interleaving with the deliveries: `Model/UtxoReaders.lean`.) -/
theorem C10_readers_agree (evs : List REv) :
    ∀ p ∈ (runR {} evs).2, ∀ q ∈ (runR {} evs).2, p.2 = q.2 :=
  answers_agree {} evs

/-- **... and it is the first delivery**, the one `C10_answer` speaks of. -/
theorem C10_readers_first (pre post : List REv) (r : Res) (hpre : ∀ e ∈ pre, ∃ i, e = .read i) :
    ∀ p ∈ (runR {} (pre ++ .deliver r :: post)).2, p.2 = r := by
  intro p hp
  rw [runR_append, runR_reads pre hpre] at hp
  exact answers_eq (ReqObj.deliver {} r) r post rfl p hp

/-- **No reader hangs once the request is answered**: after a delivery, however many readers have come
and gone and whatever else was delivered, the next attempt of ANY reader completes.  (Stated as: reader `i` has an
answer in the run that ends with its attempt; for an `i` that has not completed before, it is that attempt's.) -/
theorem C10_readers_none_hang (pre post : List REv) (r : Res) (i : Nat) :
    ∃ a, (i, a) ∈ (runR {} (pre ++ .deliver r :: post ++ [.read i])).2 := by
  obtain ⟨a, ha⟩ := Option.isSome_iff_exists.mp (deliver_answers (runR {} pre).1 r)
  have ho : (runR {} (pre ++ .deliver r :: post)).1.answer = some a := by
    rw [runR_append]; exact answer_stable_run _ a post ha
  refine ⟨a, ?_⟩
  rw [runR_append]
  apply List.mem_append_right
  show (i, a) ∈ (stepR _ (.read i)).2.toList ++ []
  rw [read_completes _ a i ho]
  exact List.mem_singleton.2 rfl

/-- three readers, two of them inside `Result` before the delivery, a second delivery in between: all get the first -/
example : (runR {} [.read 1, .read 2, .deliver (.ok (.spent 2 0 2)), .read 2, .deliver (.err .shutdown), .read 1, .read 3]).2 =
    [(2, .ok (.spent 2 0 2)), (1, .ok (.spent 2 0 2)), (3, .ok (.spent 2 0 2))] := by decide +kernel

/-- Full statement "every request is eventually answered" is false: a request whose start height is above the tip
makes the manager rescan nothing for ever. -/
theorem C10_all_answered_counterexample :
    ∃ (w : World) (init : List Req), FilterSound w ∧ (run w 10 10 init).1 = .spin ∧ (run w 10 10 init).2.out = [] :=
  ⟨{ chain := [[], []], tip := fun _ => 1, arrive := fun _ => [], stopAt := fun _ => false,
     hashErr := fun _ => false, fm := fun _ _ _ => some true, blockErr := fun _ => false },
   [⟨1, ⟨1, 0⟩, 5⟩],
   fun _ _ _ _ _ _ h => Bool.noConfusion (Option.some.inj h), by decide +kernel, by decide +kernel⟩

/-- No request is ever lost: whatever the run status (fuel exhaustion included) every request that entered is still
queued, deferred to the next batch, held by the reporter, or has been delivered to — as multisets. -/
theorem C10_none_lost (w : World) (sf mf : Nat) (init : List Req) :
    let r := run w sf mf init
    (r.2.pq ++ r.2.next ++ entReqs r.2.ents ++ r.2.out.map (·.req)).Perm (init ++ arrived w r.2.k) :=
  (run_cons w sf mf init).perm

/-- a run cut short inside a batch: one request deferred to the next batch, one held by the reporter, two answered -/
example : (run exW 3 10 exInit).1 = .fuelOut ∧ (run exW 3 10 exInit).2.next.map (·.id) = [4] ∧
    (entReqs (run exW 3 10 exInit).2.ents).map (·.id) = [3] ∧
    (run exW 3 10 exInit).2.out.map (·.req.id) = [1, 2] := by decide +kernel

/-- Once the manager is idle or stopped nothing is queued or watched and every request that entered has been
delivered to — block-fetch failures and `Stop` included (the requests dequeued at the failing height get the error). -/
theorem C10_all_answered_partial (w : World) (sf mf : Nat) (init : List Req) :
    let r := run w sf mf init
    (r.1 = .idle ∨ r.1 = .stopped) →
      r.2.pq = [] ∧ r.2.next = [] ∧ r.2.ents = [] ∧ (r.2.out.map (·.req)).Perm (init ++ arrived w r.2.k) := by
  intro r hs
  have hfin := (mgr_exit w sf mf { pq := init } rfl).1 hs
  refine ⟨hfin.1, hfin.2.1, hfin.2.2, ?_⟩
  have hp := C10_none_lost w sf mf init
  have h1 : (run w sf mf init).2.pq = [] := hfin.1
  have h2 : (run w sf mf init).2.next = [] := hfin.2.1
  have h3 : (run w sf mf init).2.ents = [] := hfin.2.2
  simp only [h1, h2, h3, entReqs_nil, List.append_nil, List.nil_append] at hp
  exact hp

example : (run exW 20 10 exInit).1 = .idle ∧
    (run exW 20 10 exInit).2.out.length = 4 ∧ (run exW 20 10 exInit).2.k = 8 :=
  by decide +kernel

/-- failure path: the block fetch of the request's start height fails; the request gets the error -/
example :
    let w : World := { chain := [[]], tip := fun _ => 0, arrive := fun _ => [], stopAt := fun _ => false,
                       hashErr := fun _ => false, fm := fun _ _ _ => some true, blockErr := fun _ => true }
    let q : Req := ⟨1, ⟨1, 0⟩, 0⟩
    (run w 10 10 [q]).1 = .idle ∧
    (run w 10 10 [q]).2.out.map (fun d => (d.req.id, d.res)) = [(1, .err .blockFail)] := by decide +kernel

/-- failure path: `Stop` during the `GetBlockHash` call of the request's start height; the request gets the error -/
example :
    let w : World := { chain := [[]], tip := fun _ => 0, arrive := fun _ => [], stopAt := fun k => k == 1,
                       hashErr := fun _ => false, fm := fun _ _ _ => some true, blockErr := fun _ => false }
    let q : Req := ⟨1, ⟨1, 0⟩, 0⟩
    (run w 10 10 [q]).1 = .idle ∧
    (run w 10 10 [q]).2.out.map (fun d => (d.req.id, d.res)) = [(1, .err .shutdown)] := by decide +kernel

/-- the only way not to finish (fuel aside) is the spin: the queue is non-empty and every queued request starts
above the tip -/
theorem C10_spin_only_above_tip (w : World) (sf mf : Nat) (init : List Req) :
    let r := run w sf mf init
    r.1 = .spin → r.2.pq ≠ [] ∧ ∀ q ∈ r.2.pq, w.tip r.2.k < q.birth := by
  intro r hs
  exact (mgr_exit w sf mf _ rfl).2 hs

/-- The exclusion for the spin as an explicit hypothesis: when every start height is at or below every tip the
scanner is shown, the manager never spins; so (fuel aside) it ends idle or stopped and `C10_all_answered_partial`
applies. -/
theorem C10_no_spin_partial (w : World) (sf mf : Nat) (init : List Req)
    (hb : ∀ k, ∀ q ∈ init ++ arrived w k, ∀ j, q.birth ≤ w.tip j) :
    (run w sf mf init).1 ≠ .spin := by
  intro hs
  obtain ⟨hne, hall⟩ := C10_spin_only_above_tip w sf mf init hs
  obtain ⟨q, hq⟩ := List.exists_mem_of_ne_nil _ hne
  have hin := (run_cons w sf mf init).perm.subset (mem_holds_pq hq)
  exact Nat.lt_irrefl _ (Nat.lt_of_lt_of_le (hall q hq) (hb _ q hin _))

example : (∀ k, ∀ q ∈ exInit ++ arrived exW k, ∀ j, q.birth ≤ exW.tip j) := by
  intro k q hq j
  rw [exW_arrived] at hq
  show q.birth ≤ 3
  split at hq
  · exact (by decide : ∀ q ∈ exInit ++ [(⟨4, ⟨1, 1⟩, 0⟩ : Req)], q.birth ≤ 3) q hq
  · exact (by decide : ∀ q ∈ exInit ++ ([] : List Req), q.birth ≤ 3) q hq

/-- What the model takes from the Go source, re-extracted from the repo's working tree on every run:
`ProcessBlock` adds the new requests and looks for their initial outputs before it looks for spends (`joinReq`
before `notifySpends`); `dequeueAtHeight` defers with `<` and takes with `==` (the partition in `stepH`);
`scanFromHeight` makes a fresh reporter, fails the remaining requests on every error path (and, after the dequeue, the
just-dequeued ones with `failRequests`: `failNew`), and ends with
`NotifyUnspentAndUnfound` (`scan`); `notifyRequests` forgets the outpoint in all three maps before it delivers (one
`Entry` list) and the watch list is rebuilt from the per-outpoint map `outpoints` (one entry per watched outpoint: the
key list of the `Entry` list); a nil initial report does not overwrite a recorded one (`mergeInit`, the F5 repair); `deliver` is a
non-blocking send on a channel of capacity 1 and `Result` returns the cached result before it selects (`ReqObj`). -/
theorem C10_source_facts :
    Gen.Utxo.processBlockSteps = ["b.addNewRequests", "b.findInitialTransactions", "b.notifySpends"] ∧
    Gen.Utxo.dequeueOps = ["<", "=="] ∧
    Gen.Utxo.dequeueTargets = ["s.nextBatch", "requests"] ∧
    Gen.Utxo.scanSeq = ["s.cfg.BestSnapshot", "newBatchSpendReporter", "reporter.FailRemaining",
      "s.cfg.GetBlockHash", "reporter.FailRemaining", "s.dequeueAtHeight", "s.cfg.BlockFilterMatches",
      "reporter.FailRemaining", "reporter.NotifyProgress", "failRequests", "reporter.FailRemaining",
      "s.cfg.GetBlock", "failRequests", "reporter.FailRemaining", "failRequests", "reporter.FailRemaining",
      "reporter.ProcessBlock", "reporter.NotifyProgress",
      "s.cfg.BestSnapshot", "reporter.FailRemaining", "reporter.NotifyUnspentAndUnfound"] ∧
    Gen.Utxo.watchListSources = ["b.outpoints"] ∧
    Gen.Utxo.notifyRequestsSeq = ["delete b.initialTxns", "delete b.outpoints", "delete b.requests", "deliver"] ∧
    Gen.Utxo.initialKeepsNonNil = true ∧
    Gen.Utxo.deliverNonBlocking = true ∧
    Gen.Utxo.resultChecksCacheFirst = true ∧
    Gen.Utxo.resultChanCap = 1 :=
  ⟨rfl, rfl, rfl, rfl, rfl, rfl, rfl, rfl, rfl, rfl⟩

end Neutrino.Utxo
