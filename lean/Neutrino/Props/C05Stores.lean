import Neutrino.Lemmas.GetCFilter
/-!
# C05 — where the committed headers come from, and what a freshly opened filter store holds

* The headers a response is verified against are the filter-header store's RANGE read.  For every
  history of writes, roll backs and range reads the range read returns, height by height, what the
  per-height read returns at that moment (`C05_verification_headers_are_committed`); the file part of
  this is `C07_trans_FetchFilterHeaderAncestors` (the translated `FetchHeaderAncestors` is `readRange`
  of the file).  A memory of earlier range reads that a roll back cuts at the OLD tip keeps the header
  of the lowest disconnected height: `C05_stale_range_cache_counterexample`.
* Every filter store opened in a process holds, under its network's genesis hash, the genesis filter of
  THAT network, whatever other networks were opened before (`C05_genesis_per_network`); a process-wide
  table keyed by something several networks share (the genesis merkle root) hands the first network's
  filter to the second: `C05_shared_genesis_memo_counterexample`.
-/
namespace Neutrino.GetCFilter

/-- **The headers handed to the verification are the committed ones**, for every history of header
writes, roll backs and earlier range reads, starting from any file: what `FetchHeaderAncestors` returns
for the heights `lo … lo+n-1` is what `FetchHeaderByHeight` returns for each of them now. -/
theorem C05_verification_headers_are_committed (file : List Nat) (ops : List FHOp) (lo n : Nat) :
    let s := fhRun false { file := file } ops
    (s.readRange lo n).2 = (List.range' lo n).map s.at? := by
  intro s
  exact readRange_eq_at s lo n (coh_run ops _ nofun)

example : let s := fhRun false { file := [1, 2, 3] } [.readRange 1 2, .rollback, .write [9]]
    (s.readRange 1 2).2 = [some 2, some 9] ∧ s.at? 2 = some 9 := by decide +kernel

/-- a memory of the last range read that a roll back cuts at the tip BEFORE the roll back keeps the
header of the lowest disconnected height: after the re-org the range read differs from the per-height read -/
theorem C05_stale_range_cache_counterexample :
    let s := fhRun true { file := [1, 2, 3] } [.readRange 1 2, .rollback, .write [9]]
    (s.readRange 1 2).2 = [some 2, some 3] ∧ s.at? 2 = some 9 := by decide +kernel

/-- **Every store opened in the process holds its own network's genesis filter**: whatever networks
were opened before and after (any order, any repetitions), the genesis filter a network's database
returns - the one `GetCFilter(genesis)` hands out unverified right after start-up - is the filter of
that network's genesis block (`gen net`, which is what the committed header of height 0 is made of). -/
theorem C05_genesis_per_network (gen : Nat → Nat) (nets : List Nat) (net f : Nat)
    (h : genesisGet (openAll gen id {} nets) net = some f) : f = gen net :=
  (openAll_ok gen nets {} (empty_ok gen)).1 net f h

theorem C05_genesis_opened_last (gen : Nat → Nat) (nets : List Nat) (net : Nat) :
    genesisGet (openStore gen id (openAll gen id {} nets) net) net = some (gen net) :=
  (open_ok gen _ net (openAll_ok gen nets {} (empty_ok gen))).2

example : genesisGet (openAll (fun n => 10 + n) id {} [1, 2, 1]) 2 = some 12 := by decide +kernel

/-- a process-wide table keyed by what two networks share (both map to key 7: the genesis merkle root)
gives the network opened second the first one's genesis filter -/
theorem C05_shared_genesis_memo_counterexample :
    genesisGet (openAll (fun n => 10 + n) (fun _ => 7) {} [1, 2]) 2 = some 11 ∧
    genesisGet (openAll (fun n => 10 + n) (fun _ => 7) {} [2, 1]) 1 = some 12 := by decide +kernel

end Neutrino.GetCFilter
