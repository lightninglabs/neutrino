/-
C18 — concurrent use of the client is free of data races (PARTIAL).

A lockset argument over extracted facts for the shared state named in the
property's anchors, plus race-detector runs of the drivers; not a
happens-before proof of the whole program.
-/
import Neutrino.Model.Ownership
import Neutrino.Gen.AccessNames
namespace Neutrino.Lockset
open Neutrino.Gen.AccessTable

/-- display: the stable (role) name of an id and, where it differs, the Go identifier it stands for today -/
def shown (i : Nat) : String :=
  let n := nameOf i
  match Neutrino.Gen.AccessNames.goNames.find? (·.1 == n) with
  | some p => n ++ " (= " ++ p.2 ++ " in the source)"
  | none => n

def shownPair (r s : Access) : String :=
  shown r.field ++ ": " ++ (if r.write then "write" else "read") ++ " in " ++ shown r.fn ++ " (" ++ r.file ++ ":" ++ toString r.line ++ ") | " ++
  (if s.write then "write" else "read") ++ " in " ++ shown s.fn ++ " (" ++ s.file ++ ":" ++ toString s.line ++ ") share no lock"

def racyPairs : List (Access × Access) :=
  rows.flatMap (fun r => (rows.filter (fun s => !pairOk tables r s)).map (fun s => (r, s)))

def unexplained : List (Access × Access) :=
  racyPairs.filter (fun p => !isKnown tables p.1.field p.1.fn p.2.fn)

/-- Diagnostics only: name the offending pairs / entries in the build log when a theorem below is about to fail. -/
def diagnostics : List String :=
  ((unexplained.filter (fun p => p.1.write || !p.2.write)).map (fun p => "C18 unsynchronised pair: " ++ shownPair p.1 p.2)) ++
  ((allCallerHolds.filter (fun e => !callerHoldsOk tables calls e)).map (fun e =>
    "C18 callerHolds entry no longer justified by the call rows: " ++ shown e.fn ++ " under " ++ shown e.lock)) ++
  ((calls.filter (reentrant tables acquires)).map (fun c =>
    "C18 re-entrant lock: " ++ shown c.caller ++ " calls " ++ shown c.callee ++ " (line " ++ toString c.line ++ ") holding a mutex the callee locks again")) ++
  ((unguardedAccesses.filter (fun u => ordered.any (fun k => k.field == u.field && (k.fnA == u.fn || k.fnB == u.fn)))).map (fun u =>
    "C18 " ++ shown u.field ++ " is accessed in " ++ shown u.fn ++ " (line " ++ toString u.line ++
    ") on a path an ERROR verdict of the query can take: the callback that writes it may still be running (the `ordered` entry holds for the nil verdict only)")) ++
  (if callbacks == reviewedCallbacks then [] else
    ["C18 work-manager callbacks changed: extracted [" ++ ", ".intercalate (callbacks.map (fun c => shown c.fn ++ (if c.multi then " (multi)" else " (single)"))) ++ "]"]) ++
  (foreignUnlocks.map (fun u => "C18 " ++ shown u.fn ++ " unlocks " ++ shown u.lock ++ " without having locked it: its callers' lock regions are opened")) ++
  ((knownRacy.filter (fun k => !racyPairs.any (fun p => p.1.field == k.field && p.1.fn == k.fnA && (k.anyB || p.2.fn == k.fnB)))).map (fun k =>
    "C18 stale knownRacy entry: " ++ shown k.field ++ " " ++ shown k.fnA ++ " | " ++ shown k.fnB))

#eval show IO Unit from do
  unless diagnostics.isEmpty do
    throw <| IO.userError ("\n".intercalate diagnostics)

/-- **Full statement** (kept visible; false on the unchanged tree, see the counterexample): any two accesses to one
tracked field, at least one a write, from goroutine classes that can run concurrently, hold a common mutex
(a read lock on both sides does not count). -/
def C18_lockset_statement : Prop := ∀ r ∈ rows, ∀ s ∈ rows, pairOk tables r s = true

/-- rows of one field (the check is quadratic per field, not over the whole table) -/
def rowsOf (f : Nat) : List Access := rows.filter (·.field == f)

def okOrKnown (r s : Access) : Bool := pairOk tables r s || isKnown tables r.field r.fn s.fn

theorem C18_fields_cover : rows.all (fun r => fields.contains r.field) = true := by decide +kernel

theorem C18_lockset_by_field :
    fields.all (fun f => (rowsOf f).all (fun r => (rowsOf f).all (fun s => okOrKnown r s))) = true := by
  decide +kernel

theorem pairOk_of_field_ne (r s : Access) (h : (r.field == s.field) = false) : pairOk tables r s = true := by
  simp [pairOk, conflict, h]

/-- **Lockset discipline, except the recorded pairs.** -/
theorem C18_lockset : ∀ r ∈ rows, ∀ s ∈ rows,
    pairOk tables r s = true ∨ isKnown tables r.field r.fn s.fn = true := by
  intro r hr s hs
  cases hf : r.field == s.field
  · exact Or.inl (pairOk_of_field_ne r s hf)
  · have hmem : r.field ∈ fields := List.contains_iff_mem.mp (List.all_eq_true.mp C18_fields_cover r hr)
    have hr' : r ∈ rowsOf r.field := List.mem_filter.mpr ⟨hr, beq_self_eq_true _⟩
    have hs' : s ∈ rowsOf r.field := List.mem_filter.mpr ⟨hs, beq_iff_eq.mp hf ▸ beq_self_eq_true _⟩
    have hg := List.all_eq_true.mp C18_lockset_by_field r.field hmem
    exact (Bool.or_eq_true _ _).mp (List.all_eq_true.mp (List.all_eq_true.mp hg r hr') s hs')

/-- every recorded pair is a real row pair that shares no lock: no entry is stale, the full statement is false -/
theorem C18_lockset_counterexample :
    knownRacy.all (fun k => ((rowsOf k.field).filter (·.fn == k.fnA)).any (fun r =>
      ((rowsOf k.field).filter (fun s => k.anyB || s.fn == k.fnB)).any (fun s => !pairOk tables r s))) = true := by
  decide +kernel

/-- no function unlocks a mutex it did not lock itself: the lexical lock regions (and the inferred "every caller holds
the lock" facts) are not silently opened by a callee -/
theorem C18_no_foreign_unlock : foreignUnlocks.isEmpty = true := by decide +kernel

theorem C18_lockset_statement_false : ¬ C18_lockset_statement := by
  intro h
  obtain ⟨k, hk⟩ : ∃ k, k ∈ knownRacy := ⟨_, List.mem_cons_self⟩
  obtain ⟨r, hr, hrs⟩ := List.any_eq_true.mp (List.all_eq_true.mp C18_lockset_counterexample k hk)
  obtain ⟨s, hs, hns⟩ := List.any_eq_true.mp hrs
  rw [h r (List.mem_filter.mp (List.mem_filter.mp hr).1).1 s (List.mem_filter.mp (List.mem_filter.mp hs).1).1] at hns
  cases hns

/-- **No re-entrant locking**: no function is called with a mutex held that it locks again itself (the recursive
read lock of the block-locator functions was of this kind). -/
theorem C18_no_reentrant_lock : calls.all (fun c => !reentrant tables acquires c) = true := by decide +kernel

/-- **The work-manager callbacks are the reviewed ones**, with the reviewed multiplicity: the functions registered as
`query.Request.HandleResp` (extracted) run on worker goroutines; everything their receiver structs hold and every
local variable their closures capture and write is part of the access table above. -/
theorem C18_callbacks_reviewed : callbacks = reviewedCallbacks := by decide +kernel

/-- **Verdict ordering holds on success only**: every access, outside the callbacks, to state that a work-manager
callback writes and that an `ordered` entry covers is made before the query is issued or behind
`if err != nil { return }` on the verdict received from the query's error channel — never on a path an error verdict
(timeout, retry limit, shutdown: sent while a worker may still be inside the callback) can take. -/
theorem C18_ordered_only_on_success :
    ordered.all (fun k => !unguardedAccesses.any (fun u => u.field == k.field && (u.fn == k.fnA || u.fn == k.fnB))) = true := by
  decide +kernel

/-- no stale `ordered` entry: each one names a real conflicting pair of rows without a common mutex -/
theorem C18_ordered_used :
    ordered.all (fun k => ((rowsOf k.field).filter (·.fn == k.fnA)).any (fun r =>
      ((rowsOf k.field).filter (·.fn == k.fnB)).any (fun s =>
        conflict tables r s && !share (effHeld tables r.fn r.held) (effHeld tables s.fn s.held)))) = true := by
  decide +kernel

/-- the "only called with the lock held" claims of the ownership table agree with every extracted call -/
theorem C18_caller_holds : allCallerHolds.all (callerHoldsOk tables calls) = true := by decide +kernel

/-- the reviewed table only holds what the extractor could not infer (no entry duplicates an inferred one) -/
theorem C18_caller_holds_minimal :
    callerHolds.all (fun e => !inferredHolds.any (fun h => h.fn == e.fn && h.lock == e.lock)) = true := by decide +kernel

/-- every owner / alias entry names a function / lock that occurs in the extracted table, and every tracked field
has at least one row -/
theorem C18_tables_used :
    owners.all (fun o => rows.any (·.fn == o.fn)) = true ∧
    lockAlias.all (fun a => rows.any (fun r => r.held.any (·.lock == a.1))) = true ∧
    fields.all (fun f => rows.any (·.field == f)) = true := by
  refine ⟨?_, ?_, ?_⟩ <;> decide +kernel

/- non-vacuity: there are conflicting pairs that DO share a lock, and the relation is not trivially false -/
example : ∃ r ∈ rowsOf N.«blockManager.headerTip», ∃ s ∈ rowsOf N.«blockManager.headerTip»,
    conflict tables r s = true ∧ pairOk tables r s = true := by decide +kernel
example : concurrent .blockHandler .cfHandler = true ∧ concurrent .blockHandler .blockHandler = false := by decide

end Neutrino.Lockset
