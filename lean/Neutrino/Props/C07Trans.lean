/-
C07 - the read arithmetic of the header stores in terms of the functions the CODE defines
(`FetchHeaderAncestors` of both stores, `readHeadersFromFile`; translated from headerfs/store.go and
file.go on every run, Gen/TransStore.lean), against the store model `C07_ancestors` is about.
-/
import Neutrino.Props.C07
import Neutrino.Lemmas.TransStore
import Neutrino.Lemmas.TransFile
namespace Neutrino.Store
open Neutrino.Gen.TransStore Neutrino.Gen.TransFile Neutrino.GoInt

/-- **`blockHeaderStore.FetchHeaderAncestors` as the code spells it is the model's
`fetchAncestors`** over the durable state (index lookup and range read of that state), for every
count below 2^32 - wrap-around of `endHeight - numHeaders` included. -/
theorem C07_trans_FetchHeaderAncestors (d : Durable) (mk : Nat → T_wire_BlockHeader) (n id : Nat) (hn : n < 2 ^ 32) :
    blockHeaderStore_FetchHeaderAncestors n id (heightFn d) (rangeFn d.bf mk)
      = (match fetchAncestors d n id with
         | some (s, hs) => (hs.map mk, s, false)
         | none => ([], 0, true)) :=
  trans_fetchAncestors_block d mk n id hn

/-- `C07_ancestors` for the code's own function: on a durable state representing the list `l`,
asking for `n ≤ h` ancestors of the hash stored at height `h` returns the `n + 1` entries of the
list ending there and their start height; asking for more fails. -/
theorem C07_trans_ancestors (d : Durable) (l : Log) (hrep : Rep d l) (mk : Nat → T_wire_BlockHeader)
    (id h n : Nat) (hid : l.blocks[h]? = some id) (hn : n < 2 ^ 32) :
    (n ≤ h → blockHeaderStore_FetchHeaderAncestors n id (heightFn d) (rangeFn d.bf mk)
              = (((l.blocks.drop (h - n)).take (n + 1)).map mk, h - n, false)) ∧
    (n > h → blockHeaderStore_FetchHeaderAncestors n id (heightFn d) (rangeFn d.bf mk) = ([], 0, true)) := by
  obtain ⟨h1, h2, _, _⟩ := C07_ancestors d l hrep id h n hid
  rw [C07_trans_FetchHeaderAncestors d mk n id hn]
  exact ⟨fun hle => by rw [h1 hle], fun hgt => by rw [h2 hgt]⟩

/-- the filter-header store's `FetchHeaderAncestors`, over the filter file -/
theorem C07_trans_FetchFilterHeaderAncestors (d : Durable) (n id : Nat) (hn : n < 2 ^ 32) :
    filterHeaderStore_FetchHeaderAncestors n id (heightFn d) (rangeFn d.ff (fun x => x))
      = (match d.db.height? id with
         | none => ([], 0, true)
         | some h => if n > h then ([], 0, true)
                     else match readRange d.ff (h - n) h with
                          | some hs => (hs, h - n, false)
                          | none => ([], 0, true)) :=
  trans_fetchAncestors_filter d n id hn

/-- **`readHeadersFromFile` asks the file for exactly the bytes of entries `lo … hi`**: `(hi-lo+1)·sz`
bytes at offset `lo·sz` (for ranges that fit the code's uint32 length arithmetic), and returns the
reader over what `ReadAt` left in the buffer, or `ReadAt`'s error. -/
theorem C07_trans_readHeadersFromFile (f : Atom) (sz lo hi : Nat) (f1 : Atom → List Nat → Int → Int × Bool)
    (f2 : Atom → List Nat → Int → List Nat) (f3 : List Nat → Atom)
    (hle : lo ≤ hi) (hlen : sz * (hi - lo + 1) < 2 ^ 32) (hoff : lo * sz < 2 ^ 64) (hsz : 0 < sz) :
    readHeadersFromFile f sz lo hi f1 f2 f3
      = (if (f1 f (List.replicate ((hi - lo + 1) * sz) 0) ((lo * sz : Nat) : Int)).2 = false
         then (f3 (f2 f (List.replicate ((hi - lo + 1) * sz) 0) ((lo * sz : Nat) : Int)), false)
         else (0, true)) :=
  trans_readHeadersFromFile f sz lo hi f1 f2 f3 hle hlen hoff hsz

example : (3 : Nat) ≤ 5 ∧ 80 * (5 - 3 + 1) < 2 ^ 32 ∧ 3 * 80 < 2 ^ 64 ∧ 0 < 80 := by decide
example : blockHeaderStore_FetchHeaderAncestors 2 7 (fun _ => (5, false)) (fun lo hi => ([], decide (lo ≠ 3 ∨ hi ≠ 5)))
    = ([], 3, false) := rfl
example : (blockHeaderStore_FetchHeaderAncestors 6 7 (fun _ => (5, false)) (fun lo hi => ([], decide (hi < lo)))).2.2 = true := rfl

/-- **`HeaderType.Size` is the model's entry width**: the width all offsets of the store model are computed
with (`width`: 80 bytes per entry of the block header file, 32 per entry of the filter header file) is what
the code's own function answers for the two header types, and any other header type is an error. -/
theorem C07_trans_HeaderType_Size (w : Which) (t : Atom) :
    HeaderType_Size (typeOf w) = (((width w : Nat) : Int), false) ∧
    ((∀ w', t ≠ typeOf w') → HeaderType_Size t = (0, true)) :=
  ⟨trans_headerTypeSize w, trans_headerTypeSize_unknown t⟩

example : HeaderType_Size 0 = (80, false) ∧ HeaderType_Size 1 = (32, false) ∧ HeaderType_Size 2 = (0, true) := ⟨rfl, rfl, rfl⟩
example : ∀ w', (2 : Atom) ≠ typeOf w' := by intro w'; cases w' <;> decide

end Neutrino.Store
