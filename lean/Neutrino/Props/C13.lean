/-
C13 — bans are exact, durable and enforced.
-/
import Neutrino.Lemmas.BanHist
import Neutrino.Lemmas.BanEnforce
import Neutrino.Model.LockObj
import Neutrino.Gen.Ban
namespace Neutrino.Ban

/-- **C13, store clause, as stated** (millisecond resolution).  For every history
of ban / status / unban / reopen calls at non-decreasing times over arbitrary
targets (any byte strings, masks, ports, durations of either sign), a `Status`
of any supported address at any later time answers as the history dictates:
`lastBan … id` is the last ban of that network not followed by an unban, with
`lo = hi = banTime + duration`; strictly before it the answer is "banned" with
the recorded reason, at or after it — or when there is no such ban — "not
banned".  Every spelling of the address is the same `id`; `reopen` does not
touch `lastBan`.  FALSE of the code (F15): see `C13_status_counterexample`. -/
def C13_status : Prop :=
  ∀ (T0 : Int) (hist : Hist) (now : Int) (tg : Target) (id : NetId),
    monoFrom T0 hist → endTime T0 hist ≤ now → idOf tg = some id →
    statusOk (lastBan Oracle.empty hist id) now now (step (run {} hist) now (.status tg)).2 = true

/-- 1.2.3.4 as `net.ParseIP` returns it. -/
def exAddr : Target := { via := .parse, ip := v4Prefix ++ [1, 2, 3, 4], mask := none }
def exId : NetId := ⟨v4Prefix ++ [1, 2, 3, 4], ff4⟩

/-- Banned at t = 0 for 1600 ms; the expiry is stored as second 1; a query at
t = 1100 ms is told "not banned" 500 ms before the ban lapses. -/
theorem C13_status_counterexample : ¬ C13_status := by
  intro h
  have h1 := h 0 [(0, .ban exAddr 2 1600)] 1100 exAddr exId ⟨Int.le_refl _, trivial⟩ (by decide) (by decide)
  revert h1
  decide

/-- **What the code does guarantee**: the full statement whenever the query does
not fall into `[floor_sec(banTime+duration), banTime+duration)` — the same
predicate `truncated` the driver uses for `shape=expiry-truncated-to-seconds`. -/
theorem C13_status_partial (T0 : Int) (hist : Hist) (now : Int) (tg : Target) (id : NetId)
    (hm : monoFrom T0 hist) (hn : endTime T0 hist ≤ now) (hid : idOf tg = some id)
    (hshape : truncated (lastBan Oracle.empty hist id) now = false) :
    statusOk (lastBan Oracle.empty hist id) now now (step (run {} hist) now (.status tg)).2 = true := by
  obtain ⟨hnone, hsome⟩ := status_after_run T0 hist now tg id hm hn hid
  cases hob : lastBan Oracle.empty hist id with
  | none => rw [hnone hob]; rfl
  | some b =>
    rw [hob] at hshape
    simp only [truncated, decide_eq_false_iff_not] at hshape
    by_cases h1 : now < b.lo
    · rw [hsome b hob, if_pos (Int.not_le.mp fun hle => hshape ⟨hle, h1⟩)]
      simp only [statusOk, h1, ↓reduceIte, isBannedWith, beq_self_eq_true]
    · rw [hsome b hob, if_neg fun h => h1 (Int.lt_of_lt_of_le h (floorSec_le _))]
      simp only [statusOk, h1, ↓reduceIte]
      split <;> rfl

/-- The same guarantee spelled out: with `e = banTime + duration` of the last
unlifted ban, `Status` says banned (recorded reason, expiry = the whole second
below `e`) at every `now` whose second is below `e`'s second, not banned at every
`now ≥ e`; and not banned when there is no unlifted ban (never banned, or
unbanned since). -/
theorem C13_status_explicit (T0 : Int) (hist : Hist) (now : Int) (tg : Target) (id : NetId)
    (hm : monoFrom T0 hist) (hn : endTime T0 hist ≤ now) (hid : idOf tg = some id) :
    (∀ b, lastBan Oracle.empty hist id = some b →
      (now / 1000 < b.lo / 1000 →
        (step (run {} hist) now (.status tg)).2 = .banned b.reason (b.lo / 1000 * 1000)) ∧
      (b.lo ≤ now → (step (run {} hist) now (.status tg)).2 = .notBanned)) ∧
    (lastBan Oracle.empty hist id = none → (step (run {} hist) now (.status tg)).2 = .notBanned) := by
  obtain ⟨hnone, hsome⟩ := status_after_run T0 hist now tg id hm hn hid
  refine ⟨fun b hob => ⟨fun h => ?_, fun h => ?_⟩, hnone⟩
  · rw [hsome b hob, if_pos (lt_floorSec_iff.mpr h)]
  · rw [hsome b hob, if_neg (Int.not_lt.mpr (Int.le_trans (floorSec_le _) h))]

/-- What `lastBan` is: a ban at `t` for `d` sets `banTime + duration = t + d`
with its reason for that network (whatever spelling was used) and for no other;
an unban clears it; status and reopen leave it alone. -/
theorem C13_lastBan_characterisation (o : Oracle) (hist : Hist) (t : Int) (tg : Target) (id : NetId)
    (hid : idOf tg = some id) (r : Nat) (d : Int) :
    lastBan o (hist ++ [(t, .ban tg r d)]) id = some ⟨t + d, t + d, r⟩ ∧
    lastBan o (hist ++ [(t, .unban tg)]) id = none ∧
    (∀ id', id' ≠ id → lastBan o (hist ++ [(t, .ban tg r d)]) id' = lastBan o hist id' ∧
                        lastBan o (hist ++ [(t, .unban tg)]) id' = lastBan o hist id') ∧
    (∀ tg', lastBan o (hist ++ [(t, .status tg')]) = lastBan o hist) ∧
    lastBan o (hist ++ [(t, .reopen)]) = lastBan o hist := by
  simp only [lastBan_append, lastBan, Oracle.note, hid, Oracle.set, ↓reduceIte, true_and]
  refine ⟨?_, fun _ => trivial, trivial⟩
  intro id' hne
  simp only [hne, ↓reduceIte, and_self]

/-- **Durability**: closing and reopening the database changes neither the
store nor what any later call returns nor the history's `lastBan`. -/
theorem C13_reopen_invisible (s : State) (o : Oracle) (t : Int) (h1 h2 : Hist) :
    step s t .reopen = (s, .ok) ∧
    run s (h1 ++ (t, .reopen) :: h2) = run s (h1 ++ h2) ∧
    outs (run s (h1 ++ [(t, .reopen)])) h2 = outs (run s h1) h2 ∧
    lastBan o (h1 ++ (t, .reopen) :: h2) = lastBan o (h1 ++ h2) := by
  refine ⟨rfl, ?_, ?_, ?_⟩
  · simp only [run_append, run, step]
  · simp only [run_append, run, step]
  · simp only [lastBan_append, lastBan, Oracle.note]

/-- **Refinement**: on every history the store model (encoded keys, expiry in
seconds, lazy deletion) returns exactly what the abstract map `NetId →
Option (expiryMs, reason)` with expiry granularity 1000 ms returns, and ends in
the corresponding state. -/
theorem C13_refines (hist : Hist) :
    outs {} hist = Spec.outs 1000 Spec.empty hist ∧
    Sim (run {} hist) (Spec.run 1000 Spec.empty hist) :=
  sim_run {} Spec.empty hist sim_init

/-- With granularity 1 ms (the property as stated) the refinement fails on the
same history as `C13_status_counterexample`. -/
theorem C13_exact_spec_counterexample :
    outs {} [(0, .ban exAddr 2 1600), (1100, .status exAddr)] ≠
    Spec.outs 1 Spec.empty [(0, .ban exAddr 2 1600), (1100, .status exAddr)] := by decide +kernel

/-- **One key per address, one address per key.**
(1) the 4-byte and the v4-mapped 16-byte form of an IPv4 address give the same
key: under any mask when the caller built the net itself, under the default mask
(nil, as the client always passes) through `ParseIPNet`; (2) the port is irrelevant; (3) the encoding is injective: two
supported (ip, mask) pairs with one key are the same network (same 16-byte
form, same mask bytes); (4) and conversely. -/
theorem C13_key_canonical :
    (∀ (a : Bytes) (m : Option Bytes) (p p' : Option Nat), a.length = 4 →
      keyOf ⟨.raw, a, m, p⟩ = keyOf ⟨.raw, v4Prefix ++ a, m, p'⟩ ∧
      keyOf ⟨.parse, a, none, p⟩ = keyOf ⟨.parse, v4Prefix ++ a, none, p'⟩) ∧
    (∀ (tg : Target) (p : Option Nat), keyOf { tg with port := p } = keyOf tg) ∧
    (∀ (ip m ip' m' k : Bytes), encodeKey ip m = some k → encodeKey ip' m' = some k →
      to16 ip = to16 ip' ∧ m = m') ∧
    (∀ (ip ip' m : Bytes) (a : Bytes), to16 ip = some a → to16 ip' = some a →
      encodeKey ip m = encodeKey ip' m) := by
  refine ⟨fun a m p p' ha => ?_, fun _ _ => rfl, fun ip m ip' m' k hk hk' => ?_,
    fun ip ip' m a h h' => encodeKey_congr m (h.trans h'.symm)⟩
  · have h4 : to4 a = some a := if_pos ha
    have h4' := to4_mapped ha
    have h16 : to16 a = to16 (v4Prefix ++ a) := ((to4_some h4).2).trans (to4_some h4').2.symm
    have hmask : ipMask a ff4 = ipMask (v4Prefix ++ a) ff4 := by
      have hl : (v4Prefix ++ a).length = 16 := by rw [List.length_append, ha]; rfl
      -- under a 4-byte mask `IP.Mask` takes the 4-byte form of either spelling: both sides are
      -- `zipWith land a ff4` once the length tests, closed after `simp only`, are evaluated
      simp only [ipMask, hl, ha, List.take_left' v4Prefix_length, List.drop_left' v4Prefix_length, ff4,
        List.length_cons, List.length_nil]
      rfl
    constructor
    · exact encodeKey_congr _ h16
    · simp only [keyOf, resolve, parseIPNet, h4, h4', Option.getD_none, hmask]
  · obtain ⟨h16, -, hm⟩ := encodeKey_inj hk hk'
    exact ⟨h16, hm⟩

/-- **C13, enforcement clause, as stated, at full strength**: after any
sequence of outbound-connected / version / add-peer / ban-peer (misbehaviour
detected) / unban / peer-done events at non-decreasing times — any peers, any
addresses, several peers on one IP included — no peer in the connected set has
an address that `IsBanned` reports banned at that time.  (Before /repo's commit
dc8e2ea `fix: BanPeer disconnects every connected peer of the banned network`
this was false of the code: `BanPeer` banned the IP network but disconnected only
`PeerByAddr(addr)`; the history `exEvs` below is the counterexample to that
version, kept as a regression `example`.) -/
theorem C13_enforced (T0 : Int) (evs : EvHist) (now : Int) (hm : monoEv T0 evs) (hn : endEv T0 evs ≤ now) :
    ∀ p, p ∈ (runNet {} evs).connected → (isBanned (runNet {} evs).store now p).2 = false := by
  have hc : Clean (runNet {} evs) (endEv T0 evs) := clean_run {} T0 evs (fun _ hp => nomatch hp) hm
  exact fun p hp => not_banned_of_clean _ _ _ hn hc p hp

def exPeerA : Peer := ⟨v4Prefix ++ [127, 0, 0, 1], 18444⟩
def exPeerB : Peer := ⟨v4Prefix ++ [127, 0, 0, 1], 18445⟩
def exPeerC : Peer := ⟨v4Prefix ++ [127, 0, 0, 2], 18444⟩
/-- two nodes on one host and one elsewhere: all connect, A misbehaves and is banned -/
def exEvs : EvHist :=
  [(0, .outbound exPeerA), (1, .version exPeerA 1101), (2, .addPeer exPeerA),
   (3, .outbound exPeerB), (4, .version exPeerB 1101), (5, .addPeer exPeerB),
   (6, .outbound exPeerC), (7, .version exPeerC 1101), (8, .addPeer exPeerC),
   (9, .banPeer exPeerA 5)]

/-- **`BanPeer` empties the banned network**: afterwards no connected peer's
address has the banned key — the reported peer and every other peer on that IP
are gone — and nobody is added. -/
theorem C13_banPeer_clears_network (n : Net) (t : Int) (p q : Peer) (reason : Nat) (k : Bytes)
    (hp : keyOf p.target = some k) (hq : keyOf q.target = some k) :
    q ∉ (stepNet n t (.banPeer p reason)).connected ∧
    (∀ r, r ∈ (stepNet n t (.banPeer p reason)).connected → r ∈ n.connected) :=
  ⟨not_mem_afterBan_of_key hp hq, fun _ hr => (mem_afterBan hr).1⟩

/-- **A peer that does not offer WITNESS and CF is banned and dropped**: in
every state, `OnVersion` on a pending peer whose service bits lack either flag
leaves its address banned (reason NoCompactFilters, for `BanDuration`) and the
peer neither pending nor connected; a peer that offers both is left alone. -/
theorem C13_version_enforced (n : Net) (t : Int) (p : Peer) (services : Nat) (k : Bytes)
    (hp : p ∈ n.pending) (hk : keyOf p.target = some k) :
    (hasRequired services = false →
      let n' := stepNet n t (.version p services)
      (∃ e, (step n'.store t (.status p.target)).2 = .banned reasonNoCompactFilters e) ∧
      (isBanned n'.store t p).2 = true ∧ p ∉ n'.pending ∧ p ∉ n'.connected) ∧
    (hasRequired services = true → stepNet n t (.version p services) = n) := by
  refine ⟨fun hr => version_rejected hp hk hr (lt_banDuration t), fun hr => ?_⟩
  simp only [stepNet, hp, ↓reduceIte, hr]

/-- **… and this is settled at the version message, whatever the peer does next.**  The handshake is a sequence
of steps (`outbound`, `version`, then — only if the peer sends its verack — `addPeer`); a peer can stop after any of
them.  Once `OnVersion` has seen service bits lacking WITNESS or CF, at every later time within the ban duration the
address is reported banned, the socket is in neither set (so no later step can hand it a request: requests go to
`connected` peers only), a late `addPeer` for it is a no-op and its going away (`done`) changes nothing: no step the
peer can withhold (verack) or pre-empt (hanging up) is needed for the ban. -/
theorem C13_version_enforced_stalled (n : Net) (t t' : Int) (p : Peer) (services : Nat) (k : Bytes)
    (hp : p ∈ n.pending) (hk : keyOf p.target = some k) (hr : hasRequired services = false)
    (h1 : t ≤ t') (h2 : t' < t + banDurationMs - 1000) :
    let n' := stepNet n t (.version p services)
    (isBanned n'.store t' p).2 = true ∧ p ∉ n'.pending ∧ p ∉ n'.connected ∧
    stepNet n' t' (.addPeer p) = n' ∧
    (isBanned (stepNet n' t' (.done p)).store t' p).2 = true ∧ p ∉ (stepNet n' t' (.done p)).connected := by
  intro n'
  obtain ⟨-, hb, hnp, hnc⟩ := version_rejected hp hk hr h2
  exact ⟨hb, hnp, hnc, if_neg hnp, hb, fun hc => hnc (mem_without hc).1⟩

/-- The seeded ordering (C13g-2: the service-bit test deferred from `OnVersion` to `handleAddPeerMsg`) is refuted by
the two peers the deferred test never sees: one that sends its version and withholds its verack (no `addPeer` ever),
and one that hangs up before the peer handler gets to it (`done` before `addPeer`; `handleAddPeerMsg` returns early).
Neither is ever banned; the first one even keeps its socket. -/
theorem C13_version_deferred_counterexample :
    let svc : Peer → Nat := fun _ => 1037
    let stalled := runNetDeferred svc {} [(0, .outbound exPeerA), (1, .version exPeerA 1037)]
    let hungUp := runNetDeferred svc {} [(0, .outbound exPeerA), (1, .version exPeerA 1037), (2, .done exPeerA), (3, .addPeer exPeerA)]
    hasRequired 1037 = false ∧
    (isBanned stalled.store 5000 exPeerA).2 = false ∧ exPeerA ∈ stalled.pending ∧
    (isBanned hungUp.store 5000 exPeerA).2 = false ∧
    -- the code as it is: banned from the version message on, in both histories
    (isBanned (runNet {} [(0, .outbound exPeerA), (1, .version exPeerA 1037)]).store 5000 exPeerA).2 = true ∧
    (isBanned (runNet {} [(0, .outbound exPeerA), (1, .version exPeerA 1037), (2, .done exPeerA), (3, .addPeer exPeerA)]).store 5000 exPeerA).2 = true := by
  decide +kernel

example : (0 : Int) ≤ 5000 ∧ (5000 : Int) < 0 + banDurationMs - 1000 ∧ hasRequired 1037 = false ∧
    exPeerA ∈ (stepNet {} 0 (.outbound exPeerA)).pending := by decide +kernel

/-- After `BanPeer` (from any of the misbehaviour sites) the peer is not
connected and its address is banned with the given reason. -/
theorem C13_banPeer_enforced (n : Net) (t : Int) (p : Peer) (reason : Nat) (k : Bytes)
    (hk : keyOf p.target = some k) :
    let n' := stepNet n t (.banPeer p reason)
    p ∉ n'.connected ∧ ∃ e, (step n'.store t (.status p.target)).2 = .banned reason e :=
  ⟨not_mem_afterBan _ _, _, congrArg Prod.snd
    (status_after_ban _ t t _ _ hk hk (within_banDuration (lt_banDuration t)))⟩

/-- **`BanPeer` disconnects the reported peer whether or not a ban can be
recorded**: for ANY address — also one that is not an IP literal (a tor or
hostname peer, `keyOf = none`: nothing is written to the store) — the peer is not
connected afterwards. -/
theorem C13_banPeer_disconnects_always (n : Net) (t : Int) (p : Peer) (reason : Nat) :
    p ∉ (stepNet n t (.banPeer p reason)).connected ∧
    (keyOf p.target = none → (stepNet n t (.banPeer p reason)).store = n.store) :=
  ⟨not_mem_afterBan _ _, fun h => congrArg Prod.fst (step_ban_none _ _ _ _ h)⟩

/-- A banned address is refused at both doors: `outboundPeerConnected` does not
create the peer, `handleAddPeerMsg` does not record it (and drops the socket). -/
theorem C13_banned_refused (n : Net) (t : Int) (p : Peer) (hb : (isBanned n.store t p).2 = true) :
    (stepNet n t (.outbound p)).pending = n.pending ∧
    (stepNet n t (.outbound p)).connected = n.connected ∧
    (stepNet n t (.addPeer p)).connected = n.connected ∧
    p ∉ (stepNet n t (.addPeer p)).pending := by
  simp only [stepNet, hb, ↓reduceIte]
  by_cases hp : p ∈ n.pending
  · simp only [hp, ↓reduceIte]
    exact ⟨trivial, trivial, trivial, not_mem_without _ _⟩
  · simp only [hp, ↓reduceIte]
    exact ⟨trivial, trivial, trivial, fun h => h⟩

/-- **The answer of `IsBanned` depends only on the store content and the IP
key** — not on the port, the spelling, or which questions were asked before:
it is true exactly when the store holds an unexpired record under the key of the
address's network; hence any two addresses with one key get one answer in every
store.  (`isBanned : State → Int → Peer → State × Bool` has no other input; that
the real `IsBanned` has none either — it touches no field of the ChainService
but the ban store — is `C13_source_facts`.) -/
theorem C13_isBanned_pure (s : State) (now : Int) (p : Peer) :
    ((isBanned s now p).2 = true ↔
      ∃ k e r, keyOf p.target = some k ∧ lookup s.recs k = some (e, r) ∧ now < e * 1000) ∧
    (∀ q : Peer, keyOf q.target = keyOf p.target → (isBanned s now q).2 = (isBanned s now p).2) := by
  refine ⟨isBanned_iff_record s now p, fun q hq => Bool.eq_iff_iff.mpr ?_⟩
  rw [isBanned_iff_record, isBanned_iff_record, hq]

/-- ChainService-level calls and the store calls they make -/
inductive CsOp where
  | isBanned (tg : Target)             -- IsBanned(addr)
  | banPeer (tg : Target) (reason : Nat)   -- BanPeer(addr, reason): BanIPNet(…, reason, BanDuration)
  | unbanPeer (tg : Target)            -- UnbanPeer(addr, _)
deriving DecidableEq, Repr

def CsOp.toOp : CsOp → Op
  | .isBanned tg => .status tg
  | .banPeer tg r => .ban tg r banDurationMs
  | .unbanPeer tg => .unban tg

/-- the set of banned networks after a history of calls (what the driver's oracle keeps) -/
def banSetRun (b : BanSet) : List (Int × CsOp) → BanSet
  | [] => b
  | (_, .banPeer tg _) :: rest => banSetRun (match idOf tg with | some id => b.ban id | none => b) rest
  | (_, .unbanPeer tg) :: rest => banSetRun (match idOf tg with | some id => b.unban id | none => b) rest
  | (_, .isBanned _) :: rest => banSetRun b rest

/-- **Within the ban duration `IsBanned` answers membership in the set of banned
networks**, whatever spellings the bans, unbans and earlier questions used and
in whatever order they came: for every history of ChainService-level calls at
non-decreasing times starting at `T0`, and every query at `now < T0 + BanDuration
− 1 s`, the store says "banned" exactly when the queried network is in
`banSetRun`.  This is the oracle `isBannedOk` of the `c13s` driver cases. -/
theorem C13_isBanned_tracks_bans (T0 : Int) (h : List (Int × CsOp)) (now : Int) (tg : Target) (id : NetId)
    (hm : monoFrom T0 (h.map fun x => (x.1, x.2.toOp))) (hn : endTime T0 (h.map fun x => (x.1, x.2.toOp)) ≤ now)
    (hwin : now < T0 + banDurationMs - 1000) (hid : idOf tg = some id) :
    (∃ r e, (step (run {} (h.map fun x => (x.1, x.2.toOp))) now (.status tg)).2 = .banned r e) ↔
      id ∈ banSetRun [] h := by
  -- the ban set tracks `lastBan`: every recorded ban was made at or after `T0` and lasts `BanDuration`
  have key : ∀ (h : List (Int × CsOp)) (T : Int) (b : BanSet) (o : Oracle), T0 ≤ T →
      monoFrom T (h.map fun x => (x.1, x.2.toOp)) → Tracks (T0 + banDurationMs) b o →
      Tracks (T0 + banDurationMs) (banSetRun b h) (lastBan o (h.map fun x => (x.1, x.2.toOp))) := by
    intro h
    induction h with
    | nil => exact fun _ _ _ _ _ htr => htr
    | cons x rest ih =>
      intro T b o hT hmono htr
      obtain ⟨t, op⟩ := x
      have hTt : T0 ≤ t := Int.le_trans hT hmono.1
      cases op with
      | isBanned tg' => exact ih t b o hTt hmono.2 htr
      | banPeer tg' r' => exact ih t _ _ hTt hmono.2 (htr.note_ban tg' r' (Int.add_le_add_right hTt _))
      | unbanPeer tg' => exact ih t _ _ hTt hmono.2 (htr.note_unban tg' t)
  obtain ⟨hmem, hlo⟩ := key h T0 [] Oracle.empty (Int.le_refl _) hm (tracks_empty _) id
  obtain ⟨hnone, hsome⟩ := status_after_run T0 _ now tg id hm hn hid
  rw [hmem]
  cases hl : lastBan Oracle.empty (h.map fun x => (x.1, x.2.toOp)) id with
  | none => rw [hnone hl]; exact ⟨nofun, nofun⟩
  | some b =>
    -- now < T0 + BanDuration − 1 s ≤ b.lo − 1 s < the whole second below b.lo
    rw [hsome b hl, if_pos (Int.lt_trans (Int.lt_of_lt_of_le hwin (Int.sub_le_sub_right (hlo b hl) _))
      (sub_lt_floorSec _))]
    exact ⟨fun _ => rfl, fun _ => ⟨_, _, rfl⟩⟩

/-- The ban store as a lock-protected object: a call (with the clock reading it
takes inside its transaction) runs inside `walletdb.Update`, i.e. under the
database's single-writer lock, as ANY sequence of micro-steps that composes to
`step` (the instance is the coarsest decomposition; `lock_serializes` holds for
every one).  That `Status` reads and purges inside that one transaction is
`C13_source_facts` (`statusOneTransaction`). -/
def banObj : LockObj.Obj State (Int × Op) Out :=
  { Loc := Int × Op, start := id, micro := fun s c => ((step s c.1 c.2).1, .inr (step s c.1 c.2).2) }

/-- **Every interleaving, any number of goroutines and calls**: whenever no
call is inside its transaction, the store is in the state — and every completed
call returned the result — of running the completed calls one at a time in the
order in which they took the writer lock. -/
theorem C13_lock_serializes (evs : List (LockObj.Ev (Int × Op))) :
    let c := LockObj.crun banObj { shared := {}, holder := none, log := [] } evs
    c.holder = none → LockObj.Replay banObj {} c.log c.shared :=
  LockObj.lock_serializes banObj _ evs

/-- Replaying a log atomically is `run` on its calls, with `step`'s outputs. -/
theorem C13_replay_is_run (s0 s : State) (log : List (Nat × (Int × Op) × Out))
    (h : LockObj.Replay banObj s0 log s) :
    s = run s0 (log.map (·.2.1)) ∧ log.map (·.2.2) = outs s0 (log.map (·.2.1)) := by
  induction h with
  | nil => exact ⟨rfl, rfl⟩
  | @snoc log s s' t i r hr hex ih =>
    have hm : step s i.1 i.2 = (s', r) := hex.atomic (f := fun s (c : Int × Op) => step s c.1 c.2) fun _ _ => rfl
    rw [List.map_append, List.map_append, run_append, outs_append, ← ih.1, ← ih.2]
    exact ⟨congrArg Prod.fst hm.symm, congrArg (log.map (·.2.2) ++ [·]) (congrArg Prod.snd hm.symm)⟩

/-- **No committed ban is lost to a concurrent `Status`** (nor to any other
concurrent call): for every schedule of any number of goroutines calling ban /
status / unban / reopen, at every quiescent point the guarantee of
`C13_status_explicit` holds with respect to the calls completed so far, in lock
order (their clock readings, taken inside the transactions, are non-decreasing
in that order): the last unlifted ban of the queried network is reported, with
its reason, by every later query whose second is below the ban's end, however
the earlier status queries were interleaved with it. -/
theorem C13_no_ban_lost_under_concurrency (evs : List (LockObj.Ev (Int × Op)))
    (T0 now : Int) (tg : Target) (id : NetId) :
    let c := LockObj.crun banObj { shared := {}, holder := none, log := [] } evs
    let hist : Hist := c.log.map (·.2.1)
    c.holder = none → monoFrom T0 hist → endTime T0 hist ≤ now → idOf tg = some id →
    (∀ b, lastBan Oracle.empty hist id = some b →
      (now / 1000 < b.lo / 1000 → (step c.shared now (.status tg)).2 = .banned b.reason (b.lo / 1000 * 1000)) ∧
      (b.lo ≤ now → (step c.shared now (.status tg)).2 = .notBanned)) ∧
    (lastBan Oracle.empty hist id = none → (step c.shared now (.status tg)).2 = .notBanned) := by
  intro c hist hq hm hn hid
  rw [show c.shared = run {} hist from (C13_replay_is_run _ _ _ (C13_lock_serializes evs hq)).1]
  exact C13_status_explicit T0 hist now tg id hm hn hid

/-- **A two-transaction `Status` loses a ban**: a lapsed record is stored
(banned at 0 for −5 s); a split Status reads it at t = 10 (lapsed: to be
purged); a 24 h re-ban commits at t = 11; the purge then deletes the key
without re-reading — and the query at t = 12 says "not banned" although the last
ban of the network runs until t = 86 400 011. -/
theorem C13_split_status_counterexample :
    (step (runSplit {} [.call 0 (.ban exAddr 1 (-5000)), .statusView 10 exAddr,
                        .call 11 (.ban exAddr 5 banDurationMs), .statusPurge exAddr]) 12 (.status exAddr)).2 = .notBanned ∧
    lastBan Oracle.empty [(0, .ban exAddr 1 (-5000)), (10, .status exAddr), (11, .ban exAddr 5 banDurationMs)] exId =
      some ⟨86400011, 86400011, 5⟩ ∧
    -- the atomic Status, same calls in either order around the re-ban, keeps it
    (step (run {} [(0, .ban exAddr 1 (-5000)), (10, .status exAddr), (11, .ban exAddr 5 banDurationMs)]) 12 (.status exAddr)).2 =
      .banned 5 86400000 ∧
    (step (run {} [(0, .ban exAddr 1 (-5000)), (11, .ban exAddr 5 banDurationMs), (11, .status exAddr)]) 12 (.status exAddr)).2 =
      .banned 5 86400000 := by decide +kernel

/-- **A connection that was shaking hands while its IP got banned is turned
away**: `p` is pending (its socket passed `outboundPeerConnected` earlier); a
peer `q` with the same key is banned at `t1` (directly or for a lie); when
`p`'s handshake completes at `t2` within the ban duration, `handleAddPeerMsg`
does not record it — and drops the socket. -/
theorem C13_handshake_race (n : Net) (t1 t2 : Int) (p q : Peer) (reason : Nat) (k : Bytes)
    (hq : keyOf q.target = some k) (hp : keyOf p.target = some k)
    (h12 : t1 ≤ t2) (hwin : t2 < t1 + banDurationMs - 1000) :
    let n' := stepNet (stepNet n t1 (.banPeer q reason)) t2 (.addPeer p)
    p ∉ n'.connected ∧ p ∉ n'.pending := by
  have hb : (isBanned (stepNet n t1 (.banPeer q reason)).store t2 p).2 = true :=
    isBanned_after_ban _ t1 t2 _ _ hq hp (within_banDuration hwin)
  have href := C13_banned_refused (stepNet n t1 (.banPeer q reason)) t2 p hb
  exact ⟨href.2.2.1 ▸ not_mem_afterBan_of_key hq hp, href.2.2.2⟩

/-- The facts regenerated from banman/*.go and neutrino.go on this run, on which
the models above rely: key layout and To4/To16 normalisation, default masks,
port stripping, masked IP with the mask as given; the stored value is the Unix
SECONDS of `now + duration`; `Status` deletes when `!now.Before(expiry)`, reading and purging inside ONE
`walletdb.Update` (no `walletdb.View`), as `BanIPNet` and `UnbanIPNet` are one `Update` each;
`OnVersion`'s service test, read by its truth table over {neither, WITNESS, CF,
both} whatever its spelling, is the model's `!hasRequired`; then `BanPeer(addr, NoCompactFilters)`,
`Disconnect`, return; `handleAddPeerMsg` and `outboundPeerConnected` test
`IsBanned` before recording / creating the peer; `IsBanned` reads the store on
every call (it touches no ChainService field but `banStore`: no memo); `IsBanned` and `BanPeer` go
through `ParseIPNet(addr, nil)` and the store with `BanDuration`; `BanPeer`
installs its deferred `go` before any return (so also on the parse-error path; the
goroutine body may be a literal or a same-file helper) which disconnects `PeerByAddr(addr)` and then every peer of `s.Peers()` whose address
parses (`ParseIPNet(sp.Addr(), nil)`) to the banned network; the other `BanPeer` calls (a set: robust against moving a call into a helper) pass
exactly the three "provably invalid" reasons, and `GetBlock` bans for an invalid block. -/
theorem C13_source_facts :
    Gen.Ban.ipv4Type = 0 ∧ Gen.Ban.ipv6Type = 1 ∧
    Gen.Ban.encodeNormalisesTo4 = true ∧ Gen.Ban.encodeElseTo16 = true ∧
    Gen.Ban.encodeWrites = ["[]byte{ipType}", "ip", "[]byte(ipNet.Mask)"] ∧
    Gen.Ban.defaultV4Mask = "net.CIDRMask(32,32)" ∧ Gen.Ban.defaultV6Mask = "net.CIDRMask(128,128)" ∧
    Gen.Ban.parseSplitsPort = true ∧ Gen.Ban.parseDefaultMasks = true ∧ Gen.Ban.parseMasksIP = true ∧
    Gen.Ban.expiryAbsoluteSeconds = true ∧ Gen.Ban.statusDeletesWhenNotBefore = true ∧
    Gen.Ban.fetchReadsSeconds = true ∧ Gen.Ban.statusOneTransaction = true ∧
    Gen.Ban.banOneTransaction = true ∧ Gen.Ban.unbanOneTransaction = true ∧
    Gen.Ban.reasonNoCompactFilters = reasonNoCompactFilters ∧ Gen.Ban.banDurationMs = banDurationMs ∧
    Gen.Ban.onVersionRejects = ([1, 9, 65, 73].map fun sv => toString (!hasRequired sv)) ∧
    Gen.Ban.onVersionBans = true ∧ Gen.Ban.onVersionDisconnects = true ∧
    Gen.Ban.addPeerRefusesBanned = true ∧ Gen.Ban.outboundRefusesBanned = true ∧
    Gen.Ban.isBannedUsesStore = true ∧ Gen.Ban.isBannedFields = ["banStore"] ∧
    Gen.Ban.isBannedReturns = ["false", "false", "banStatus.Banned"] ∧
    Gen.Ban.isBannedFirstStmt = "ipNet,err:=banman.ParseIPNet(addr,nil)" ∧ Gen.Ban.banPeerUsesStore = true ∧ Gen.Ban.banPeerDeferBeforeReturns = true ∧
    Gen.Ban.banPeerDisconnects = true ∧
    Gen.Ban.banPeerDisconnectsNetwork = true ∧
    Gen.Ban.banPeerReasons = ["blockmanager.go:banman.InvalidFilterHeader",
      "blockmanager.go:banman.InvalidFilterHeaderCheckpoint", "query.go:banman.InvalidBlock"] ∧
    Gen.Ban.getBlockBansInvalidBlock = true := by and_intros <;> rfl

/-- The hypotheses of `C13_isBanned_tracks_bans` can be met (the `example`s below):
query before the ban under one spelling, ban under another (other port, built by hand as 4 bytes), query again -/
def exCs : List (Int × CsOp) :=
  [(10, .isBanned exAddr),
   (20, .banPeer { via := .parse, ip := [1, 2, 3, 4], mask := none, port := some 18445 } 1),
   (30, .isBanned { via := .parse, ip := v4Prefix ++ [1, 2, 3, 4], mask := none, port := some 9 }),
   (40, .unbanPeer { via := .parse, ip := v4Prefix ++ [9, 9, 9, 9], mask := none })]
example : monoFrom 0 (exCs.map fun x => (x.1, x.2.toOp)) := by simp [monoFrom, exCs, CsOp.toOp]
example : endTime 0 (exCs.map fun x => (x.1, x.2.toOp)) ≤ 50 ∧ (50 : Int) < 0 + banDurationMs - 1000 := by decide +kernel
example : exId ∈ banSetRun [] exCs := by decide +kernel
example : outs {} (exCs.map fun x => (x.1, x.2.toOp)) = [.notBanned, .ok, .banned 1 86400000, .ok] := by decide +kernel
example : (isBanned (run {} (exCs.map fun x => (x.1, x.2.toOp))) 50 exPeerA).2 = false := by decide +kernel

/-- an IPv6 peer: the ban is reported for its address under another port, not for a neighbour in its /64 -/
example :
    let p6 : Peer := ⟨[32, 1, 13, 184, 0, 0, 0, 0, 0, 0, 0, 0, 0, 0, 0, 5], 18444⟩
    let st := (stepNet {} 0 (.banPeer p6 5)).store
    (isBanned st 10 ⟨p6.ip, 18445⟩).2 = true ∧
    (isBanned st 10 ⟨[32, 1, 13, 184, 0, 0, 0, 0, 0, 0, 0, 0, 0, 0, 0, 6], 18444⟩).2 = false := by decide +kernel
example : hasRequired 1101 = true ∧ hasRequired 1037 = false ∧ hasRequired 8 = false := by decide +kernel
example : monoEv 0 exEvs := by simp [monoEv, exEvs]
/-- regression: the former counterexample — B (same IP as A, other port) is dropped with A, C stays -/
example : (runNet {} exEvs).connected = [exPeerC] := by decide +kernel
example : (isBanned (runNet {} exEvs).store 9 exPeerB).2 = true ∧ (isBanned (runNet {} exEvs).store 9 exPeerC).2 = false := by decide +kernel
example : (runNet {} [(0, .outbound exPeerA), (1, .version exPeerA 1037), (2, .addPeer exPeerA)]).connected = [] ∧
    (isBanned (runNet {} [(0, .outbound exPeerA), (1, .version exPeerA 1037)]).store 5 exPeerA).2 = true := by decide +kernel
example : keyOf exPeerA.target = some [0, 127, 0, 0, 1, 255, 255, 255, 255] := by decide +kernel

/-- the hypotheses of `C13_status_partial` / `_explicit` are met by a
non-trivial history: two spellings, a re-ban, an unban of another address, a
reopen, and a query through a hand-built 4-byte net -/
def exHist : Hist :=
  [(1000, .ban exAddr 2 5000),
   (1200, .status { via := .parse, ip := v4Prefix ++ [1, 2, 3, 4], mask := none, port := some 8333 }),
   (1300, .reopen),
   (1400, .ban { via := .raw, ip := v4Prefix ++ [1, 2, 3, 4], mask := some ff4 } 5 86400000),
   (1500, .unban { via := .parse, ip := v4Prefix ++ [9, 9, 9, 9], mask := none })]
def exRaw4 : Target := { via := .raw, ip := [1, 2, 3, 4], mask := some ff4 }

example : monoFrom 0 exHist := by simp [monoFrom, exHist]
example : endTime 0 exHist ≤ 2000 := by decide +kernel
example : idOf exRaw4 = some exId := by decide +kernel
example : lastBan Oracle.empty exHist exId = some ⟨86401400, 86401400, 5⟩ := by decide +kernel
example : truncated (lastBan Oracle.empty exHist exId) 2000 = false := by decide +kernel
example : (step (run {} exHist) 2000 (.status exRaw4)).2 = .banned 5 86401000 := by decide +kernel
example : keyOf exRaw4 = some [0, 1, 2, 3, 4, 255, 255, 255, 255] := by decide +kernel
example : keyOf exAddr = keyOf exRaw4 := by decide +kernel
/-- the excluded shape is inhabited (so the partial theorem is strictly weaker) and decidable -/
example : truncated (lastBan Oracle.empty [(0, .ban exAddr 2 1600)] exId) 1100 = true := by decide +kernel
/-- an IPv6 network with a /64 mask: masked, type byte 1 -/
example : keyOf { via := .parse, ip := [32, 1, 13, 184, 0, 0, 0, 0, 1, 2, 3, 4, 5, 6, 7, 8],
                  mask := some [255, 255, 255, 255, 255, 255, 255, 255, 0, 0, 0, 0, 0, 0, 0, 0] } =
    some ([1] ++ [32, 1, 13, 184, 0, 0, 0, 0, 0, 0, 0, 0, 0, 0, 0, 0] ++
          [255, 255, 255, 255, 255, 255, 255, 255, 0, 0, 0, 0, 0, 0, 0, 0]) := by decide +kernel

end Neutrino.Ban
