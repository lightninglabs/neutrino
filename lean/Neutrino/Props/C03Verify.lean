/-
C03, the clause "provably inconsistent with the block (the filter omits an
output script …)": what `VerifyBasicBlockFilter` (verification.go) decides,
stated on the contents of the block — for every block, every filter (seen
through its membership test, false positives included) and every number of
transactions, outputs and inputs.

The model `VerifyFilter.verify` is compared with the real function on every
(filter, block) pair the cf-header driver meets (`vb` rows: the block's
structure as the Go code classifies it, the real `Match` answers, and the real
verdict), and the results feed the abstract `Net.verify` of the commit-path
model, so the theorems below instantiate the hypotheses `truthVerifies` and
`provableAt` of `C03_honest_wins_partial`.
-/
import Neutrino.Lemmas.VerifyFilter
import Neutrino.Spec.CFHeaders
import Neutrino.Gen.CFHeaders
namespace Neutrino.VerifyFilter
open Neutrino.CFHeaders

def toVRes : Res → VRes
  | none => .bad
  | some n => .ok n

/-- **The filter is rejected exactly when it omits an output script.**  With `Match` answering (no decoding
error), `VerifyBasicBlockFilter` returns an error iff some non-empty, non-OP_RETURN output script of a
non-coinbase transaction is not matched by the filter. -/
theorem C03_verify_rejects_iff_omits (mem : Nat → Option Bool) (txs : List Tx) (hE : errorFree mem txs = true) :
    verify mem txs = none ↔ omitsOutput mem txs = true := by
  obtain ⟨h1, h2⟩ := (errorFree_iff mem txs).mp hE
  unfold omitsOutput
  rw [verify_eq, h2, Bool.and_true, List.any_eq_true]
  constructor
  · intro h
    split at h
    · cases h
    · rename_i hall
      obtain ⟨s, hs, hm⟩ := List.all_eq_false.mp (Bool.eq_false_iff.mpr hall)
      refine ⟨s, hs, ?_⟩
      have := h1 s hs
      cases hms : mem s with
      | none => rw [hms] at this; cases this
      | some b => cases b with
        | false => rfl
        | true => rw [hms] at hm; exact absurd rfl hm
  · rintro ⟨s, hs, hm⟩
    refine if_neg fun hall => ?_
    have := List.all_eq_true.mp hall s hs
    rw [beq_iff_eq.mp hm] at this
    cases this

/-- an accepted filter comes with the number of OP_RETURN outputs it matches (what
`resolveFilterMismatchFromBlock` ranks peers by) -/
theorem C03_verify_counts_opreturns (mem : Nat → Option Bool) (txs : List Tx) (n : Nat)
    (h : verify mem txs = some n) : n = opretMatches mem txs := by
  rw [verify_eq] at h
  split at h
  · exact (Option.some.inj h).symm
  · cases h

/-- inputs never make a difference (no `Match` error): a filter is not rejected for missing a spent script —
the one false value the property does NOT call provable -/
theorem C03_verify_ignores_inputs (mem : Nat → Option Bool) (txs : List Tx) (hE : errorFree mem txs = true) :
    verify mem txs = verify mem (txs.map (fun t => { t with ins := [] })) := by
  obtain ⟨-, h2⟩ := (errorFree_iff mem txs).mp hE
  obtain ⟨e1, e2, e3⟩ := scripts_map_noIns txs.tail
  have h3 := h2
  rw [List.all_append, Bool.and_eq_true] at h3
  rw [verify_eq, verify_eq, opretMatches, opretMatches, ← List.map_tail, e1, e2, e3, List.append_nil, h2, h3.1]

/-- the coinbase transaction is not looked at -/
theorem C03_verify_ignores_coinbase (mem : Nat → Option Bool) (cb cb' : Tx) (rest : List Tx) :
    verify mem (cb :: rest) = verify mem (cb' :: rest) := rfl

/-- **A complete filter is never rejected**: a filter matching every ordinary output script of the block
(the true BIP158 filter does, by construction) passes — so an honest peer's filter is never "provably
inconsistent", whatever else the filter matches (false positives, extra elements). -/
theorem C03_verify_complete_filter_accepted (mem : Nat → Option Bool) (txs : List Tx)
    (hE : errorFree mem txs = true) (hall : ∀ s ∈ ordScripts txs.tail, mem s = some true) :
    (verify mem txs).isSome = true :=
  (verify_isSome_iff mem txs).mpr ⟨hall, ((errorFree_iff mem txs).mp hE).2⟩

/-- adding elements to a filter never turns acceptance into rejection -/
theorem C03_verify_monotone (mem mem' : Nat → Option Bool) (txs : List Tx)
    (hE : errorFree mem txs = true) (hE' : errorFree mem' txs = true)
    (hsub : ∀ s, mem s = some true → mem' s = some true)
    (h : (verify mem txs).isSome = true) : (verify mem' txs).isSome = true :=
  C03_verify_complete_filter_accepted mem' txs hE' fun s hs =>
    hsub s (((verify_isSome_iff mem txs).mp h).1 s hs)

/-- a `Match` error on the first script asked about ends the verification with an error (never defaulted) -/
theorem C03_verify_match_error_rejects (mem : Nat → Option Bool) (cb t : Tx) (o : Out) (os : List Out) (rest : List Tx)
    (ht : t.outs = o :: os) (hk : o.kind ≠ .empty) (hm : mem o.script = none) :
    verify mem (cb :: t :: rest) = none := by
  cases hk' : o.kind with
  | empty => exact absurd hk' hk
  | opret => simp [verify, verifyTxs, ht, verifyOuts, hk', hm]
  | ord => simp [verify, verifyTxs, ht, verifyOuts, hk', hm]

/-- the verdicts the commit-path model is given, computed from the blocks and the filters' membership tests -/
def netVerify (memOf : FHash → Nat → Option Bool) (blockTxs : Nat → List Tx) : FHash → Nat → VRes :=
  fun f h => toVRes (verify (memOf f) (blockTxs h))

/-- "the false value is provably inconsistent because the block check fails" is literally "the filter omits
an output script of the block" -/
theorem C03_block_check_bad_iff_omits (memOf : FHash → Nat → Option Bool) (blockTxs : Nat → List Tx) (f : FHash) (h : Nat)
    (hE : errorFree (memOf f) (blockTxs h) = true) :
    (netVerify memOf blockTxs f h == VRes.bad) = omitsOutput (memOf f) (blockTxs h) := by
  unfold netVerify
  cases hv : verify (memOf f) (blockTxs h) with
  | none =>
    have := (C03_verify_rejects_iff_omits _ _ hE).mp hv
    simp [toVRes, this]
  | some n =>
    have : omitsOutput (memOf f) (blockTxs h) = false := Bool.eq_false_iff.mpr fun ho =>
      nomatch hv.symm.trans ((C03_verify_rejects_iff_omits _ _ hE).mpr ho)
    rw [this]
    rfl

/-- the hypothesis `truthVerifies` of the honest-wins clause holds whenever the true filters are complete for
their blocks: it need not be assumed, it follows from how BIP158 builds a filter -/
theorem C03_truth_verifies_of_complete (r : Round) (memOf : FHash → Nat → Option Bool) (blockTxs : Nat → List Tx)
    (hv : r.verify = netVerify memOf blockTxs)
    (hE : ∀ i, i < r.n → errorFree (memOf (r.truth (r.start + i))) (blockTxs (r.start + i)) = true)
    (hc : ∀ i, i < r.n → ∀ s ∈ ordScripts (blockTxs (r.start + i)).tail, memOf (r.truth (r.start + i)) s = some true) :
    r.truthVerifies = true := by
  unfold Round.truthVerifies
  rw [List.all_eq_true]
  intro i hi
  have hi' : i < r.n := List.mem_range.mp hi
  have := C03_verify_complete_filter_accepted _ _ (hE i hi') (hc i hi')
  rw [hv]; unfold netVerify
  cases hx : verify (memOf (r.truth (r.start + i))) (blockTxs (r.start + i)) with
  | none => rw [hx] at this; cases this
  | some n => simp [toVRes]

/-- the source still routes the block check through `VerifyBasicBlockFilter` -/
theorem C03_verify_source_facts : Gen.CFHeaders.verifyCalledInResolve = true := rfl

/-! ### non-vacuity: a block with every kind of output and input -/
namespace Ex
def cb : Tx := ⟨[⟨.ord, 90⟩], [⟨.nowit, 0⟩]⟩
def t1 : Tx := ⟨[⟨.ord, 1⟩, ⟨.empty, 0⟩, ⟨.opret, 7⟩, ⟨.ord, 2⟩], [⟨.nowit, 0⟩, ⟨.computed, 5⟩, ⟨.unsupported, 0⟩]⟩
def t2 : Tx := ⟨[⟨.ord, 3⟩, ⟨.opret, 8⟩], [⟨.failed, 0⟩, ⟨.computed, 6⟩]⟩
def txs : List Tx := [cb, t1, t2]
/-- the true filter: every ordinary output script and the spent scripts; OP_RETURN scripts are not committed -/
def truth : Nat → Option Bool := fun s => some ([1, 2, 3, 5, 6].contains s)
/-- omits output script 2 -/
def omitOut : Nat → Option Bool := fun s => some ([1, 3, 5, 6].contains s)
/-- omits only the spent script 5 and adds the OP_RETURN script 7 -/
def omitIn : Nat → Option Bool := fun s => some ([1, 2, 3, 6, 7].contains s)
def broken : Nat → Option Bool := fun s => if s = 3 then none else some true
end Ex

example : errorFree Ex.truth Ex.txs = true ∧ verify Ex.truth Ex.txs = some 0 ∧ omitsOutput Ex.truth Ex.txs = false := by decide +kernel
example : errorFree Ex.omitOut Ex.txs = true ∧ verify Ex.omitOut Ex.txs = none ∧ omitsOutput Ex.omitOut Ex.txs = true := by decide +kernel
example : verify Ex.omitIn Ex.txs = some 1 ∧ opretMatches Ex.omitIn Ex.txs = 1 := by decide +kernel
example : verify Ex.broken Ex.txs = none ∧ errorFree Ex.broken Ex.txs = false := by decide +kernel
/-- the coinbase output 90 is in no filter above and is never asked about -/
example : verify Ex.truth Ex.txs = verify Ex.truth (⟨[], []⟩ :: Ex.txs.tail) := by decide +kernel

end Neutrino.VerifyFilter
