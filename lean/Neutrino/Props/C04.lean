/-
C04 — with one honest peer the client converges on the true best chain end to
end, and never reports a best block that is not on a valid chain from genesis.

PARTIAL.  The theorems below are about the abstract composition of
Neutrino/Model/Converge.lean (client ∘ peers at message level, the block
manager's acceptance rule a parameter with the two facts C01/C02 establish).
They cover every schedule OF THE MODEL; the real peer / connection-manager /
query stack, its timers and goroutine scheduling are exercised only on the
schedules the network simulation produces, whose observations are judged by the
oracle of Neutrino/Spec/Converge.lean (driver `net`).  The filter-header half of
convergence is not modelled here (C03); it is checked by the oracle only.

Assumptions, all explicit in the statements:
* `AcceptRule.sound / complete`  — C01 ∧ C02 for `handleHeadersMsg`;
* fairness — the events of `FairEv`: an honest peer's reply the client is
  listening for is eventually delivered, and a sync peer that is not honest and
  blocks the sync is eventually disconnected (btcd's stall detector; environment);
* finitely many non-honest peers: no `connect` events while converging (`Ev.quiet`);
* the honest tip is THE most-work valid chain (`Best`): every other valid chain has
  strictly less work.
-/
import Neutrino.Lemmas.Converge
import Neutrino.Spec.Converge
import Neutrino.Gen.SyncPeer
import Neutrino.Lemmas.SyncAsk
namespace Neutrino.Net

/-- **C04 safety.**  For every world, every acceptance rule that is sound, every
start state holding a valid chain and EVERY event list (any mix of honest
deliveries, Byzantine offers of arbitrary chains, stalls, connects, disconnects,
honest-side growth, in any order) the accepted chain is a path of valid blocks
from genesis in the ground-truth tree. -/
theorem C04_safety (w : World) (R : AcceptRule w) (s : State) (evs : List Ev)
    (h0 : w.valid s.chain = true) : w.valid (run w R s evs).chain = true :=
  run_invariant (step_valid w R) evs s h0

/-- **No event undoes accepted progress**: the work of the accepted chain never
decreases, whatever Byzantine peers send. -/
theorem C04_no_regress (w : World) (R : AcceptRule w) (s : State) (evs : List Ev) :
    w.work s.chain ≤ w.work (run w R s evs).chain :=
  run_invariant (P := fun t => w.work s.chain ≤ w.work t.chain)
    (fun t e h => Nat.le_trans h (step_work w R t e)) evs s (Nat.le_refl _)

/-- the honest tip is the unique most-work valid chain -/
def Best (w : World) (s : State) : Prop :=
  ∀ x, w.valid x = true → x ≠ s.honestTip → w.work x < w.work s.honestTip

theorem step_tip (w : World) (R : AcceptRule w) (s : State) (e : Ev) (hq : e.quiet = true) :
    (step w R s e).honestTip = s.honestTip ∧
    nonHonest (step w R s e).peers ≤ nonHonest s.peers :=
  step_elim (P := fun t => t.honestTip = s.honestTip ∧ nonHonest t.peers ≤ nonHonest s.peers)
    ⟨rfl, Nat.le_refl _⟩ (fun _ => ⟨rfl, Nat.le_refl _⟩) (fun p => ⟨rfl, nonHonest_remove_le p s.peers⟩)
    (fun _ he => by rw [he] at hq; cases hq) (fun _ he => by rw [he] at hq; cases hq)

/-- **Convergence is stable**: once the client holds the honest tip, no event
other than honest-side growth moves it away — in particular no Byzantine offer. -/
theorem C04_stable (w : World) (R : AcceptRule w) (s : State) (e : Ev) (hb : Best w s)
    (hc : s.chain = s.honestTip) (hg : ∀ c, e ≠ .grow c) :
    (step w R s e).chain = (step w R s e).honestTip :=
  step_elim (P := fun t => t.chain = t.honestTip) hc (fun o => (acc_eq_of_best hb hc R o).trans hc) (fun _ => hc)
    (fun _ _ => hc) (fun c he => absurd he (hg c))

/-- **C04 progress (existence of a fair schedule, bounded by the rank).**  In any
state satisfying the invariant in which an honest peer is connected and its tip
has more work than the accepted chain, the schedule `sched` — stall-disconnect
every non-honest sync peer in turn (finitely many: at most `nonHonest`), then
deliver the reply of the honest peer that has become the sync peer — consists of
enabled fair events only, is no longer than `rank`, and ends with the client
holding the honest tip. -/
theorem C04_progress (w : World) (R : AcceptRule w) (s : State) (hi : Inv w s)
    (hh : ∃ p ∈ s.peers, p.beh = .honest) (hw : w.work s.chain < w.work s.honestTip) :
    FairRun w R s (sched w R s) ∧ (sched w R s).length ≤ rank s ∧
    (run w R s (sched w R s)).chain = s.honestTip := by
  have hsp := stallSched_spec w R (nonHonest s.peers) s hi hh (Nat.le_refl _)
  simp only at hsp
  obtain ⟨⟨q, hq, hqb, hqm⟩, hch, htip, hfair, hlen, _⟩ := hsp
  have hne : s.chain ≠ s.honestTip := by intro he; rw [he] at hw; exact Nat.lt_irrefl _ hw
  have hlisten := listensTo_sync w hq hqm
  simp only [sched, hq]
  refine ⟨?_, ?_, ?_⟩
  · apply fairRun_append _ _ _ _ _ hfair
    exact ⟨⟨hqb, hlisten⟩, trivial⟩
  · simp only [List.length_append, List.length_cons, List.length_nil, rank, hne, ↓reduceIte]
    omega
  · rw [run_append]
    simp only [run, step, hqb, hlisten, and_self, ↓reduceIte, hch, htip]
    exact R.complete _ _ hi.tip_valid hw

/-- while the client has not converged (and an honest peer is connected) some
fair event that makes progress is enabled -/
theorem C04_fair_enabled (w : World) (s : State) (hi : Inv w s)
    (hh : ∃ p ∈ s.peers, p.beh = .honest) (hne : s.chain ≠ s.honestTip) : ∃ e, useful w s e := by
  obtain ⟨p, hp, _⟩ := hh
  obtain ⟨q, hs, hq⟩ := hi.sync_exists hp
  by_cases hqb : q.beh = .honest
  · exact ⟨.honestReply q, hqb, listensTo_sync w hs hq, hne⟩
  · exact ⟨.stall q, hs, hqb⟩

/-- what the ranking argument needs of a state -/
structure Good (w : World) (s : State) : Prop where
  inv   : Inv w s
  valid : w.valid s.chain = true
  best  : Best w s

theorem step_good (w : World) (R : AcceptRule w) (s : State) (e : Ev) (hq : e.quiet = true)
    (hg : Good w s) : Good w (step w R s e) := by
  refine ⟨step_inv w R s e hg.inv, step_valid w R s e hg.valid, ?_⟩
  intro x hx hne
  rw [(step_tip w R s e hq).1] at hne ⊢
  exact hg.best x hx hne

/-- one step of the ranking argument: every quiet event leaves the rank where it
is or lowers it, and a useful fair event lowers it by at least one -/
theorem step_rank (w : World) (R : AcceptRule w) (s : State) (e : Ev) (hq : e.quiet = true)
    (hg : Good w s) : rank (step w R s e) + (if useful w s e then 1 else 0) ≤ rank s := by
  split
  · next hu => exact rank_step_lt w R s e hg.inv hg.valid hg.best hu
  · exact rank_step_le w R s e hq hg.best

/-- **C04 ranking theorem.**  Along ANY event list without new connections and
honest-side growth (Byzantine offers, disconnects, disabled events, honest
replies, stalls in any order) the rank plus the number of useful fair events
taken so far never exceeds the initial rank. -/
theorem C04_rank (w : World) (R : AcceptRule w) (evs : List Ev) (s : State)
    (hq : ∀ e ∈ evs, e.quiet = true) (hg : Good w s) :
    rank (run w R s evs) + usefulCount w R s evs ≤ rank s := by
  induction evs generalizing s with
  | nil => simp only [run, usefulCount, Nat.add_zero, Nat.le_refl]
  | cons e es ih =>
    have hqe := hq e List.mem_cons_self
    have h1 := step_rank w R s e hqe hg
    have h2 := ih (step w R s e) (fun x hx => hq x (List.mem_cons_of_mem _ hx)) (step_good w R s e hqe hg)
    simp only [run, usefulCount]
    omega

/-- **C04 progress under the fairness hypothesis.**  FAIRNESS, stated as the
hypothesis `hfair`: the execution contains at least `rank s` useful fair events
(weak fairness provides them: by `C04_fair_enabled` one is enabled for as long as
the client has not converged).  Then — whatever else happened in between — the
client holds the honest tip at the end. -/
theorem C04_progress_fair (w : World) (R : AcceptRule w) (evs : List Ev) (s : State)
    (hq : ∀ e ∈ evs, e.quiet = true) (hg : Good w s)
    (hfair : rank s ≤ usefulCount w R s evs) :
    (run w R s evs).chain = (run w R s evs).honestTip := by
  have h := C04_rank w R evs s hq hg
  refine Decidable.by_contra fun hc => ?_
  have : 1 ≤ rank (run w R s evs) := by rw [rank, if_neg hc]; exact Nat.le_add_left _ _
  omega

/-! ## the sync-peer bookkeeping

The model changes the sync peer in exactly three places: `connect` selects one
when there is none (`handleNewPeerMsg` → `startSync`), `drop` of the sync peer
clears it and selects again (`handleDonePeerMsg` → `startSync`), and nothing
else touches it (the reorg arm of `handleHeadersMsg` hands it to the connected
sender of the adopted branch, which the model over-approximates by leaving it
alone).  The source is tied to that by the regenerated table of assignment
sites: a new function assigning `syncPeer`, or another assignment in one of the
three, breaks `C04_syncpeer_sites`. -/

/-- **Source facts** (regenerated from blockmanager.go on every run): the
functions that assign the `syncPeer` field, how often, and how many of the
assignments are `= nil`; both peer-event handlers run `startSync`. -/
theorem C04_syncpeer_sites :
    Neutrino.Gen.SyncPeer.assignSites =
      [("handleDonePeerMsg", 1, 1), ("handleHeadersMsg", 1, 0), ("startSync", 1, 0)] ∧
    Neutrino.Gen.SyncPeer.donePeerReselects = true ∧
    Neutrino.Gen.SyncPeer.newPeerSelects = true := ⟨rfl, rfl, rfl⟩

/-- **The sync peer is always a connected peer or none**, for every event list
(any interleaving of connects, disconnects, stalls, honest replies, Byzantine
offers and honest-side growth) from a state satisfying the invariant. -/
theorem C04_syncPeer_connected (w : World) (R : AcceptRule w) (s : State) (evs : List Ev)
    (hi : Inv w s) : ∀ q, (run w R s evs).sync = some q → q ∈ (run w R s evs).peers :=
  (run_inv w R evs s hi).sync_mem

/-- **Selection is never left pending**: in every reachable state, if there is no
sync peer then no peer is connected - a fortiori no connected peer announcing
more work is waiting for a `startSync` that nobody will run.  (Each handler
step that can leave the client without a sync peer - the done event of the sync
peer - runs the selection itself: `C04_done_reselects`.) -/
theorem C04_progress_enabled (w : World) (R : AcceptRule w) (s : State) (evs : List Ev)
    (hi : Inv w s) : (run w R s evs).sync = none → (run w R s evs).peers = [] :=
  fun hn => Decidable.by_contra fun hp => (run_inv w R evs s hi).sync_some hp hn

/-- the done event of the sync peer selects among the remaining peers in the same step -/
theorem C04_done_reselects (s : State) (p : Peer) (hs : s.sync = some p) :
    (drop s p).sync = pickSync (remove p s.peers) := by
  simp only [drop, hs, ↓reduceIte]

/-- an enabled selection picks a peer whenever one is connected -/
theorem C04_select_some (ps : List Peer) (h : ps ≠ []) : ∃ q, pickSync ps = some q ∧ q ∈ ps := by
  cases hq : pickSync ps with
  | none => exact absurd hq (pickSync_some h)
  | some q => exact ⟨q, rfl, pickSync_mem hq⟩

/-- The two bookkeeping mistakes the invariant excludes, as mutated handler steps.
(1) The sync peer is forgotten when it is caught lying; its later done event
finds "not the sync peer" and does not select: a connected candidate is left
without a sync peer. -/
def forgetThenDone (s : State) (p : Peer) : State :=
  let s1 : State := { s with sync := if s.sync = some p then none else s.sync }   -- forgetSyncPeer
  { s1 with peers := remove p s1.peers }                                          -- done event: not the sync peer, no startSync

/-- (2) The sender of a headers batch is adopted as sync peer when there is none -
also after its done event has been handled. -/
def adoptSender (s : State) (p : Peer) : State :=
  if s.sync = none then { s with sync := some p } else s

/-! ## the hypotheses are satisfiable, the statements are not vacuous -/

/-- A small world: chains of ids < 100 are valid, work = length. -/
def exWorld : World := { valid := fun c => c.all (· < 100), work := fun c => c.length }

def exHonest : Peer := ⟨1, .honest, 3⟩
def exSilent : Peer := ⟨2, .silent, 1000⟩
def exByz : Peer := ⟨3, .byz, 50⟩

/-- silent peer with a huge claim is the sync peer, a Byzantine and an honest peer are connected -/
def exState : State :=
  { chain := [1], peers := [exHonest, exSilent, exByz], sync := some exSilent, honestTip := [1, 2, 3] }

example : Inv exWorld exState where
  sync_mem := by intro q hq; simp only [exState, Option.some.injEq] at hq; rw [← hq]; decide
  sync_some := by intro _ h; cases h
  tip_valid := by decide

/-- the schedule of `C04_progress` on the example: two stalls (the silent peer, then the
Byzantine one that is selected next), then the honest reply; the client ends on the honest tip -/
example : sched exWorld (accStd exWorld) exState = [.stall exSilent, .stall exByz, .honestReply exHonest] := by
  decide +kernel
example : (run exWorld (accStd exWorld) exState (sched exWorld (accStd exWorld) exState)).chain = [1, 2, 3] := by
  decide +kernel

/-- a Byzantine offer of an invalid heavier chain and of a valid lighter one are both refused -/
example : (run exWorld (accStd exWorld)
    { exState with sync := some exByz } [.byzOffer exByz [1, 2, 3, 500], .byzOffer exByz []]).chain = [1] := by decide +kernel

/-- The oracle of the simulation refuses what the property forbids (sanity of the
decidable predicates the driver evaluates). -/
example : (Neutrino.Converge.Truth.init 10).safeBlockTip (.tip 7 "t7") = true := by decide +kernel
example : (Neutrino.Converge.Truth.init 10).safeBlockTip (.tip 7 "x") = false := by decide +kernel
example : (Neutrino.Converge.Truth.init 10).safeBlockTip (.tip 11 "t11") = false := by decide +kernel
example : ((Neutrino.Converge.Truth.init 10).reorg 2 3).safeFilterTip (.tip 11 "fa11") = true := by decide +kernel
example : ((Neutrino.Converge.Truth.init 10).reorg 2 3).honestId = "a11" := by decide +kernel

end Neutrino.Net

/-! ## who gets asked for headers (model: Neutrino/Model/SyncAsk.lean) -/
namespace Neutrino.Ask

/-- **Source facts** the request model rests on (regenerated on every run): the
only early returns of `startSync` are "there is a sync peer" and a failed store
read; `handleNewPeerMsg` asks a new peer on the spot iff it announces more than
our tip and `BlockHeadersSynced()`; `handleInvMsg` ignores an announcement iff
its sender is not the sync peer and not `BlockHeadersSynced()`. -/
theorem C04_ask_source :
    Neutrino.Gen.SyncPeer.startSyncEarlyReturns = ["b.syncPeer!=nil", "err!=nil"] ∧
    Neutrino.Gen.SyncPeer.newPeerAskCond = "height<uint32(sp.StartingHeight())&&b.BlockHeadersSynced()" ∧
    Neutrino.Gen.SyncPeer.invIgnoreCond = "imsg.peer!=b.SyncPeer()&&!b.BlockHeadersSynced()" := ⟨rfl, rfl, rfl⟩

/-- In every reachable state a sync peer that is ahead of us has a request outstanding. -/
theorem C04_sync_peer_ahead_is_asked (evs : List Ev) :
    ∀ q, (run init evs).sync = some q → (run init evs).tip < q.claim → q ∈ (run init evs).asked :=
  WF_run evs init WF_init

/-- **The statement as one would like it**: whenever a peer that announces more
than our tip arrives while no request is outstanding, the handler step for its
arrival issues a request to a peer at least as far ahead.  FALSE of the code:
`C04_ahead_peer_asked_counterexample`. -/
def AheadPeerAsked : Prop :=
  ∀ (s : State) (p : Peer), WF s → p ∉ s.peers → s.tip < p.claim → s.asked = [] →
    ∃ q ∈ (step s (.newPeer p)).asked, p.claim ≤ q.claim

/-- A stale tip (older than 24 h) and a sync peer level with us: the higher peer
that connects is not asked, and neither is it when it later announces a block. -/
def staleState : State :=
  { tip := 10, fresh := false, peers := [⟨1, 10⟩], sync := some ⟨1, 10⟩, asked := [] }

theorem C04_ahead_peer_asked_counterexample : ¬ AheadPeerAsked := by
  intro h
  have h1 := h staleState ⟨2, 15⟩ (by intro q hq hlt; simp only [staleState, Option.some.injEq] at hq; rw [← hq] at hlt; exact absurd hlt (by decide))
    (by decide) (by decide) rfl
  revert h1
  decide

example : (run staleState [.newPeer ⟨2, 15⟩, .inv ⟨2, 15⟩ 16]).asked = [] := by decide +kernel

/-- **C04_ahead_peer_asked (arrival)** — what the code guarantees: outside the
recorded shape (the tip is fresh, or there is no sync peer) the arrival of a
peer announcing more than our tip, with no request outstanding, issues a request
in that very handler step - to the new peer itself when we are current, else to
the candidate `startSync` selects, which announces at least as much. -/
theorem C04_ahead_peer_asked (s : State) (p : Peer) (hwf : WF s) (hnew : p ∉ s.peers)
    (hahead : s.tip < p.claim) (hq : s.asked = []) (hshape : s.fresh = true ∨ s.sync = none) :
    ∃ q ∈ (step s (.newPeer p)).asked, p.claim ≤ q.claim := by
  rw [step, if_neg hnew]; dsimp only
  by_cases hf : s.fresh = true
  · -- current: a sync peer, if any, is not ahead (it would have a request outstanding)
    have hcur : current { s with peers := s.peers ++ [p] } = true := current_of_idle hwf hq hf
    rw [if_pos ⟨hahead, hcur⟩]
    exact ⟨p, startSync_asked_mono _ p List.mem_cons_self, Nat.le_refl _⟩
  · have hs : s.sync = none := hshape.resolve_left hf
    have hncur : current { s with peers := s.peers ++ [p] } ≠ true := by
      rw [current, Bool.not_eq_true _ |>.mp hf]; exact Bool.false_ne_true
    rw [if_neg fun hc => hncur hc.2]
    have hpc : p ∈ candidates { s with peers := s.peers ++ [p] } :=
      List.mem_filter.mpr ⟨List.mem_append_right _ List.mem_cons_self, decide_eq_true (Nat.le_of_lt hahead)⟩
    obtain ⟨b, hb⟩ := best_some (List.ne_nil_of_mem hpc)
    rw [startSync_of_best (s := { s with peers := s.peers ++ [p] }) hs hb]
    exact ⟨b, List.mem_cons_self, best_ge hb p hpc⟩

/-- **C04_ahead_peer_asked (announcement)**: an `inv` for a block above our tip
from a connected peer is answered with a request when the tip is fresh and no
request is outstanding, or when its sender is the sync peer. -/
theorem C04_ahead_peer_asked_inv (s : State) (p : Peer) (h : Nat) (hwf : WF s) (hp : p ∈ s.peers)
    (hahead : s.tip < h) (hq : s.asked = []) (hshape : s.fresh = true ∨ s.sync = some p) :
    p ∈ (step s (.inv p h)).asked := by
  have hl : s.sync = some p ∨ current s = true := hshape.symm.imp_right (current_of_idle hwf hq)
  rw [step, if_pos ⟨hp, hl, hahead⟩]
  exact List.mem_cons_self

/-- the done event of the sync peer hands the sync to a remaining candidate that
is not behind us and asks it (no `current` test in between) -/
theorem C04_done_asks_replacement (s : State) (p b : Peer) (hs : s.sync = some p)
    (hb : best (candidates { s with peers := s.peers.filter (· ≠ p), asked := s.asked.filter (· ≠ p), sync := none }) = some b) :
    (step s (.donePeer p)).sync = some b ∧ b ∈ (step s (.donePeer p)).asked := by
  rw [step]; dsimp only
  rw [if_pos hs, startSync_of_best rfl hb]
  exact ⟨rfl, List.mem_cons_self⟩

/-- **Transport assumption of the progress theorems**, as a fact of the source
(regenerated on every run): each of the four entry points that hand a peer
message to the block handler - `QueueHeaders`, `QueueInv`, `NewPeer`, `DonePeer` -
sends on `peerChan` inside a `select` whose only alternative is `<-b.quit`;
there is no `default` arm, so the caller waits for room in the queue and the
message is not dropped. -/
def NoMessageLost : Prop :=
  Neutrino.Gen.SyncPeer.peerChanSends =
    [("DonePeer", true, false), ("NewPeer", true, false), ("QueueHeaders", true, false), ("QueueInv", true, false)]

theorem C04_no_message_lost : NoMessageLost := Eq.refl _

/-- Why the assumption is needed: header sync is a request/response chain.  If the
answer to the one outstanding request is lost (the request is gone, the tip did
not move), then - however much time passes and whatever answers to requests that
are NOT outstanding arrive - no request is ever issued again and the tip stays
where it is; only a new external event (an announcement, a peer arriving or
leaving) can restart the sync. -/
def quietEv : Ev → Bool
  | .age => true
  | .headers _ _ => true
  | _ => false

theorem C04_lost_reply_stalls (s : State) (evs : List Ev) (hq : s.asked = [])
    (hev : ∀ e ∈ evs, quietEv e = true) : (run s evs).tip = s.tip ∧ (run s evs).asked = [] := by
  induction evs generalizing s with
  | nil => exact ⟨rfl, hq⟩
  | cons e es ih =>
    have hes : ∀ x ∈ es, quietEv x = true := fun x hx => hev x (List.mem_cons_of_mem _ hx)
    cases e with
    | age => exact ih { s with fresh := false } hq hes
    | headers p h =>
      have hstep : step s (.headers p h) = s :=
        if_neg fun hc => by rw [hq] at hc; exact absurd hc.1 List.not_mem_nil
      rw [run, hstep]
      exact ih s hq hes
    | _ => cases hev _ List.mem_cons_self

/-- a concrete instance: the sync peer is ahead, its answer was dropped -/
example : (run { tip := 36, fresh := true, peers := [⟨1, 38⟩], sync := some ⟨1, 38⟩, asked := [] }
    [.headers ⟨1, 38⟩ 38, .age, .headers ⟨1, 38⟩ 38]).tip = 36 := by decide +kernel

end Neutrino.Ask

namespace Neutrino.Net

/-- **C04 progress with the transport assumption made explicit.**  The fair
schedule of `C04_progress` takes the honest peer's reply as an event the block
handler gets to see.  That is an assumption about the path from the peer's read
loop to the handler: `Neutrino.Ask.NoMessageLost` (a regenerated source fact,
`C04_no_message_lost`); `Neutrino.Ask.C04_lost_reply_stalls` shows what happens
without it. -/
theorem C04_progress_no_loss (_hdeliver : Neutrino.Ask.NoMessageLost)
    (w : World) (R : AcceptRule w) (s : State) (hi : Inv w s)
    (hh : ∃ p ∈ s.peers, p.beh = .honest) (hw : w.work s.chain < w.work s.honestTip) :
    FairRun w R s (sched w R s) ∧ (sched w R s).length ≤ rank s ∧
    (run w R s (sched w R s)).chain = s.honestTip :=
  C04_progress w R s hi hh hw

/-- the two mutated handler steps break the invariant on the example state -/
example : ¬ Inv exWorld (forgetThenDone exState exSilent) := by
  intro h
  exact h.sync_some (by decide) (by decide)

example : ¬ Inv exWorld (adoptSender (drop { exState with peers := [exSilent] } exSilent) exSilent) := by
  intro h
  have := h.sync_mem exSilent (by decide)
  revert this
  decide

end Neutrino.Net
