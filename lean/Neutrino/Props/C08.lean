/-
C08 — a crash at any point leaves the header stores recoverable and un-torn.
-/
import Neutrino.Lemmas.StoreFault
import Neutrino.Lemmas.StoreStartup
import Neutrino.Lemmas.StoreSplit
namespace Neutrino.Store

/-- **Every crash point of every store operation, after every history.**
`d` is any durable state representing any log `l` (`Rep`: files whole, index =
positions of the block ids, tips = last entries, filter headers not ahead);
the operation is any append, rollback or the block manager's multi-store
rollback, under the callers' contract; the crash falls before durable step `k`
(or inside it, after any `torn` bytes of a file append).  Then: the restart
succeeds, and the reopened stores represent — exactly, nothing torn, shifted or
unreadable — the log before the operation or the log after it; for the
multi-step rollback, a log the rollback passes through (each store a prefix of
what it was, at least what it will be).  If step `k` lies beyond the operation
nothing is injected and the operation completes as specified. -/
theorem C08_recover (d : Durable) (l : Log) (op : Op) (k torn : Nat)
    (hrep : Rep d l) (hc : Contract l op) (hro : op ≠ .reopen) :
    let r := exec d op (.crash k torn)
    (r.2 = .crashed →
        ∃ d' lx, reopen r.1 = some d' ∧ Rep d' lx ∧
          (match op with
           | .rollto _ => Between l (l.apply op) lx
           | _ => lx = l ∨ lx = l.apply op)) ∧
    (r.2 ≠ .crashed → r.2 = expectOut l op ∧ Rep r.1 (l.apply op)) := by
  intro r
  have h := exec_outcome d l op (.crash k torn) hrep hc trivial hro
  exact ⟨fun hcr => (h.1 hcr).2, h.2⟩

/-- **Bulk appends: every crash point of the code's arrangement** (the index
write of a batch of any size is ONE transaction, `writeBlocksSplit` over the
single chunk, fact `Gen.Store.indexAddOneTransaction`): `C08_recover` read for
that arrangement. -/
theorem C08_single_tx_append_recover (d : Durable) (l : Log) (ids : List Nat) (k torn : Nat)
    (hrep : Rep d l) (hc : Contract l (.wb ids)) :
    let r := R.fin (writeBlocksSplit ids [stamped ids l.blocks.length] { d := d, inj := .crash k torn })
    (r.2 = .crashed → ∃ d' lx, reopen r.1 = some d' ∧ Rep d' lx ∧ (lx = l ∨ lx = l.apply (.wb ids))) ∧
    (r.2 ≠ .crashed → r.2 = expectOut l (.wb ids) ∧ Rep r.1 (l.apply (.wb ids))) := by
  rw [writeBlocksSplit_single, ← exec_wb hrep]
  exact C08_recover d l (.wb ids) k torn hrep hc nofun

/-- what `C08_single_tx_append_recover` relies on in headerfs/index.go (regenerated on every run) -/
theorem C08_bulk_source_shape : Gen.Store.indexAddOneTransaction = true := by decide

/-- **A split index write does not survive a crash between its transactions**,
even with the tip moved last: killed before the second of two transactions, the
restart succeeds and cuts the file back to the recorded tip — the interrupted
batch is gone by height — but the hash of its first header still resolves, to a
height beyond the tip: the reopened stores represent no list at all. -/
theorem C08_split_append_crash_counterexample :
    let r := R.fin (writeBlocksSplit [1, 2] [[(1, 1)], [(2, 2)]] { d := init, inj := .crash 2 0 })
    r.2 = .crashed ∧
    (reopen r.1).map (fun d' => (d'.bf.ents, d'.db.btip, d'.db.height? 1, (abs d').isSome)) =
      some ([0], some 0, some 1, false) := by decide

/-- After recovery the filter-header chain is not ahead of the block-header
chain, neither store is empty, and every index entry points at its header. -/
theorem C08_recovered_consistent (d : Durable) (l : Log) (h : Rep d l) :
    l.filters.length ≤ l.blocks.length ∧ l.blocks ≠ [] ∧ l.filters ≠ [] ∧
    d.bf.junk = 0 ∧ d.ff.junk = 0 ∧ d.bf.corrupt = false ∧ d.ff.corrupt = false ∧
    (∀ i id, d.bf.get? i = some id → d.db.height? id = some i) := by
  refine ⟨h.fle, h.neB, h.neF, by rw [h.bents], by rw [h.fents], by rw [h.bents], by rw [h.fents], fun i id hg => ?_⟩
  rw [h.bents] at hg
  exact h.idxPos i id hg

/-- Syncing resumes from the recovered state: every further operation behaves
as on a fresh store holding that log (this is `C07_refines` applied to the
recovered state; stated here for a whole further history). -/
theorem C08_resume (d : Durable) (l : Log) (op : Op) (hrep : Rep d l) (hc : Contract l op) (hro : op ≠ .reopen) :
    (exec d op .none).2 = expectOut l op ∧ Rep (exec d op .none).1 (l.apply op) :=
  exec_none d l op hrep hc hro

/-- Restarting without a crash changes nothing. -/
theorem C08_reopen_id (d : Durable) (l : Log) (hrep : Rep d l) :
    ∃ d', reopen d = some d' ∧ Rep d' l := reopen_ahead hrep.ahead

/-- The facts regenerated from headerfs and blockmanager.go on this run that
the model's step order relies on: appends write the file before the index;
both rollbacks commit the index before truncating the file; a failed index
commit is repaired by sync + truncate; start-up trims a partial header before
looking at the file size; `appendRaw` reverts a short write to the END of the
file; the block manager rolls the filter store back before the block store;
both constructors run `resetInterruptedInit` (which empties only a file of exactly
one entry whose index has no tip) before they test the file size. -/
theorem C08_source_shape :
    Gen.Store.blockWriteFileFirst = true ∧ Gen.Store.filterWriteFileFirst = true ∧
    Gen.Store.blockRollbackIndexFirst = true ∧ Gen.Store.filterRollbackIndexFirst = true ∧
    Gen.Store.blockWriteRepairSyncThenTruncate = true ∧ Gen.Store.filterWriteRepairSyncThenTruncate = true ∧
    Gen.Store.blockOpenTrimsFirst = true ∧ Gen.Store.filterOpenTrimsFirst = true ∧
    Gen.Store.appendRawSeeksEnd = true ∧ Gen.Store.appendRawTruncatesOnShortWrite = true ∧
    Gen.Store.rollbackFilterStoreFirst = true ∧
    Gen.Store.openResetsInterruptedInit = true ∧ Gen.Store.blockOpenResetBeforeSizeTest = true ∧
    Gen.Store.filterOpenResetBeforeSizeTest = true ∧
    0 < Gen.Store.blockHeaderSize ∧ 0 < Gen.Store.regularFilterHeaderSize := by decide

/-- **A start that is itself killed.**  From a state whose files are ahead of
an index representing `l` (every state a crash in any operation leaves, and
every consistent state), a start killed before any of its durable steps — the
index's own transaction, the trim of a partial entry, the reconciling truncate
of either store — leaves such a state again; so does every further killed
start; and the first start that is left alone recovers exactly `l`. -/
theorem C08_restart_killed (d : Durable) (l : Log) (h : AheadOf l d) (ks : List (Nat × Nat)) :
    AheadOf l (ks.foldl (fun d kt => (exec d .reopen (.crash kt.1 kt.2)).1) d) ∧
    ∃ r, reopen (ks.foldl (fun d kt => (exec d .reopen (.crash kt.1 kt.2)).1) d) = some r ∧ Rep r l := by
  have step : ∀ d k t, AheadOf l d → AheadOf l (exec d .reopen (.crash k t)).1 := by
    intro d k t ⟨xb, xf, hA⟩
    exact (exec_reopen_killed (reopenR_ahead { d := d, inj := .crash k t } l xb xf hA trivial)).elim id
      fun ⟨c', ⟨_, hrep⟩, e⟩ => e ▸ ⟨[], [], hrep.ahead⟩
  obtain ⟨xb, xf, hA⟩ := killedStarts_induction step ks d h
  exact ⟨⟨xb, xf, hA⟩, reopen_ahead hA⟩

/-- an undisturbed start, taken step by step, is the `reopen` of the theorems above -/
theorem C08_start_steps_agree (d : Durable) (l : Log) (h : AheadOf l d) (s : Nat) :
    ∃ c', reopenR { d := d, step := s, inj := .none } = .ok true c' ∧ reopen d = some c'.d := by
  obtain ⟨xb, xf, hA⟩ := h
  exact reopenR_quiet d s l xb xf hA

/-- a killed start on the freshly initialised stores changes nothing (its only
durable steps are the two index transactions) -/
theorem restart_init_killed (k t : Nat) : (exec init .reopen (.crash k t)).1 = init := by
  -- killed before step 0 or step 1, or — the start has no third step — not at all
  match k with
  | 0 => rfl
  | 1 => rfl
  | k + 2 => rfl

/-- **The very first start is restartable at every instant** (after the repair
`resetInterruptedInit`; before it the states with a genesis entry in a flat
file but no tip in the index made the constructors fail for ever — recorded as
`crash-during-first-init`, now `fixed:`).  `FirstInit` (Lemmas/StoreStartup)
lists every on-disk state a killed first start can leave: the block file empty
or holding a torn genesis write of any length; the block file written but not
indexed; the block store complete and the same three stages of the filter
store.  From each of them a start that is killed again — before any durable
step, a file write at any torn length — leaves another such state, any number
of times; a start that is left alone yields exactly the freshly initialised
stores. -/
theorem C08_first_init (d : Durable) (h : FirstInit d) (ks : List (Nat × Nat)) :
    let d' := ks.foldl (fun d kt => (exec d .reopen (.crash kt.1 kt.2)).1) d
    (FirstInit d' ∨ d' = init) ∧ reopen d' = some init ∧ Rep init Log.init := by
  have pure : ∀ d, FirstInit d → reopen d = some init := fun d h => by
    obtain ⟨d1, hB, _, _, hF⟩ := h.openB
    rw [reopen, hB]; exact hF
  have hinit : reopen init = some init := by decide
  have step : ∀ d k t, (FirstInit d ∨ d = init) →
      (FirstInit (exec d .reopen (.crash k t)).1 ∨ (exec d .reopen (.crash k t)).1 = init) := by
    intro d k t hd
    rcases hd with hd | rfl
    · exact (exec_reopen_killed (reopenR_firstInit { d := d, inj := .crash k t } hd trivial)).elim Or.inl
        fun ⟨c', hd', e⟩ => Or.inr (e.trans hd')
    · exact Or.inr (restart_init_killed k t)
  have hd' := killedStarts_induction (P := fun d => FirstInit d ∨ d = init) step ks d (Or.inl h)
  exact ⟨hd', hd'.elim (pure _) fun h1 => by rw [h1]; exact hinit, rep_init⟩

/-- the empty data directory is where it starts -/
theorem C08_first_init_empty : FirstInit empty := Or.inl ⟨0, rfl⟩

/-- the repair does not touch a directory that merely lost its database: with
more than the initial entry in a flat file and no tip in the index the
constructor still refuses to start (nothing is truncated). -/
theorem C08_first_init_keeps_data (ids : List Nat) (x y : Nat) (ff : FileSt) :
    openStore .B { bf := { ents := x :: y :: ids }, ff := ff, db := {} } = none := by
  simp [openStore, Durable.file, Durable.setFile, Db.hasTip, btipHeight?]
  cases h : (y :: ids).getLast? with
  | none => exact absurd (List.getLast?_eq_none_iff.mp h) (by simp)
  | some _ => rfl

example : Rep init Log.init := rep_init
-- the very first start killed 40 bytes into the block store's genesis write, the restart killed right before the
-- filter store's index transaction, the third start left alone
example : (exec empty .reopen (.crash 1 40)) = ({ bf := { ents := [], junk := 40 }, ff := { ents := [] }, db := {} }, .crashed) := by
  decide
example : (exec (exec empty .reopen (.crash 1 40)).1 .reopen (.crash 6 0)).1 =
    { bf := { ents := [0] }, ff := { ents := [0] }, db := { idx := [(0, 0)], btip := some 0 } } := by decide
example : reopen (exec (exec empty .reopen (.crash 1 40)).1 .reopen (.crash 6 0)).1 = some init := by decide
-- a start killed while it reconciles the block file after a crashed append
example : (exec (exec init (.wb [1, 2, 3]) (.crash 0 170)).1 .reopen (.crash 2 0)) =
    ({ bf := { ents := [0, 1, 2] }, ff := { ents := [0] }, db := { idx := [(0, 0)], btip := some 0, ftip := some 0 } }, .crashed) := by
  decide
example : (exec init (.wb [1, 2, 3]) (.crash 0 100)).2 = .crashed := by decide
example : (exec init (.wb [1, 2, 3]) (.crash 0 100)).1.bf = { ents := [0, 1], junk := 20 } := by decide
example : (reopen (exec init (.wb [1, 2, 3]) (.crash 0 100)).1).map (·.bf) = some { ents := [0] } := by decide
example : (exec (exec init (.wb [1, 2, 3]) .none).1 (.rb 2) (.crash 1 0)).2 = .crashed := by decide
example : Contract Log.init (.wb [1, 2, 3]) := by simp [Contract, Log.init]

end Neutrino.Store
