/-
C09 - the rescan's retry queue in terms of the functions the CODE defines (`blockRetryQueue.push`, `peek`,
`pop`, `clear`; translated from rescan.go on every run, Gen/TransRescan.lean): the queue the model
(`Model/Rescan.lean`: `queue ++ [b]`, `b :: rest`, `queue := []`) threads through `retryLoop` - which the
C09 walk theorems are about - is what the code computes: a plain first-in first-out list.
-/
import Neutrino.Model.Rescan
import Neutrino.Lemmas.TransRescan
namespace Neutrino.Rescan
open Neutrino.Gen.TransRescan Neutrino.GoInt

/-- **closed forms for every queue**: `push` appends at the back, `peek` reads and `pop` removes the front
(nil on an empty queue, which is left as it is), `clear` empties. -/
theorem C09_trans_retryQueue (b : QBlock) (q : List QBlock) :
    blockRetryQueue_push b q = q ++ [b] ∧
    blockRetryQueue_peek q = q.head?.join ∧
    blockRetryQueue_pop q = (q.head?.join, q.tail) ∧
    blockRetryQueue_clear q = [] :=
  ⟨trans_push b q, trans_peek q, trans_pop q, trans_clear q⟩

/-- **the model's queue**: under any naming `nm` of blocks the code's queue is the model's list of block
ids - `push` is the model's `queue ++ [b]`, `peek`/`pop` on a non-empty queue are the model's
`b :: rest` pattern. -/
theorem C09_trans_retryQueue_model (nm : QBlock → Nat) (b c : QBlock) (q r : List QBlock) :
    (blockRetryQueue_push b q).map nm = q.map nm ++ [nm b] ∧
    (q = c :: r → blockRetryQueue_peek q = c ∧ blockRetryQueue_pop q = (c, r) ∧
      (blockRetryQueue_pop q).2.map nm = (q.map nm).tail) ∧
    (blockRetryQueue_clear q).map nm = [] := by
  refine ⟨by simp [trans_push], ?_, by simp [trans_clear]⟩
  intro hq
  subst hq
  simp [trans_peek, trans_pop]

/-- first in, first out: what was pushed onto a queue of `n` blocks comes out after exactly `n` pops -/
theorem C09_trans_retryQueue_fifo (b : QBlock) (q : List QBlock) :
    (blockRetryQueue_pop ((blockRetryQueue_push b q).drop q.length)) = (b, []) := by
  simp [trans_push, trans_pop]

example : blockRetryQueue_pop (blockRetryQueue_push (some ⟨default, 7⟩) [some ⟨default, 5⟩])
    = (some ⟨default, 5⟩, [some ⟨default, 7⟩]) := by decide +kernel
example : blockRetryQueue_peek [] = none ∧ blockRetryQueue_pop [] = (none, []) := by decide +kernel

end Neutrino.Rescan
