import Neutrino.Props.C13
open Neutrino.Ban
#print axioms C13_status_counterexample
#print axioms C13_status_partial
#print axioms C13_status_explicit
#print axioms C13_lastBan_characterisation
#print axioms C13_reopen_invisible
#print axioms C13_refines
#print axioms C13_exact_spec_counterexample
#print axioms C13_key_canonical
#print axioms lastBan_append
#print axioms run_append
#print axioms C13_enforced
#print axioms C13_banPeer_clears_network
#print axioms C13_version_enforced
#print axioms C13_version_enforced_stalled
#print axioms C13_version_deferred_counterexample
#print axioms C13_banPeer_enforced
#print axioms C13_banned_refused
#print axioms C13_source_facts
#print axioms C13_isBanned_pure
#print axioms C13_isBanned_tracks_bans
#print axioms mem_ban
#print axioms mem_unban
#print axioms C13_lock_serializes
#print axioms C13_replay_is_run
#print axioms C13_no_ban_lost_under_concurrency
#print axioms C13_split_status_counterexample
#print axioms C13_handshake_race
#print axioms outs_append
#print axioms C13_banPeer_disconnects_always
