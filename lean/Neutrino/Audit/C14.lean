import Neutrino.Props.C14
import Neutrino.Props.C14File
import Neutrino.Props.C14Trans
import Neutrino.Props.C14Read
open Neutrino.Import
#print axioms C14_success_counterexample
#print axioms C14_success_partial
#print axioms C14_success_chain_valid_partial
#print axioms C14_success_sample_partial
#print axioms C14_success_all_partial
#print axioms C14_idempotent_partial
#print axioms C14_idempotent_any_batch_partial
#print axioms C14_failure_counterexample
#print axioms C14_failure_partial
#print axioms C14_failure_all_partial
#print axioms C14_failure_block_ahead_partial
#print axioms C14_success_block_ahead_partial
#print axioms C14_block_ahead_always_fails
#print axioms C14_source_facts
#print axioms C14_validator_obligations
#print axioms C14_validated_range
#print axioms C14_cancel_safe
#print axioms C14_default_batch
#print axioms C14_cancel_failure_partial
#print axioms importRun_written_validated
#print axioms validateWalk_spec
#print axioms block_ahead_unchanged
#print axioms failContent_mk
#print axioms appendLoop_both
#print axioms importRun_zero
#print axioms importRun_covered_gen
#print axioms continuity_overlap_iff
#print axioms continuity_after_success
#print axioms block_ahead_checks_fail
open Neutrino.ImportFile in
#print axioms C14_meta_roundtrip
open Neutrino.ImportFile in
#print axioms C14_meta_version_refused
open Neutrino.ImportFile in
#print axioms C14_short_file_refused
open Neutrino.ImportFile in
#print axioms C14_open_sound
open Neutrino.ImportFile in
#print axioms C14_header_sizes
open Neutrino.ImportFile in
#print axioms C14_file_roundtrip
open Neutrino.ImportFile in
#print axioms C14_get_past_end_refused
open Neutrino.ImportFile in
#print axioms C14_torn_or_empty_refused
open Neutrino.ImportFile in
#print axioms C14_get_offset_wraps_remark
#print axioms Neutrino.Import.C14_trans_determineProcessingRegions
#print axioms Neutrino.Import.C14_trans_determineProcessingRegions_err
#print axioms Neutrino.Import.C14_trans_determineDivergenceSyncModes
#print axioms Neutrino.Import.C14_trans_targetHeightToImportSourceIndex
#print axioms Neutrino.Import.C14_trans_validateChainContinuity
#print axioms Neutrino.Import.C14_trans_validateChainContinuity_err
#print axioms C14_read_fault_none
#print axioms C14_truncated_source_reported
#print axioms C14_read_fault_success
#print axioms C14_success_read_fault_partial
#print axioms C14_read_source_shape
#print axioms C14_lax_eof_counterexample
