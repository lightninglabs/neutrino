import Neutrino.Props.C09
open Neutrino.Rescan
#print axioms C09_walk_counterexample
#print axioms C09_walk_counterexample_unread
#print axioms C09_walk_partial
#print axioms stepGood_ok
#print axioms goodB_runOk
#print axioms C09_walk_current_arm
#print axioms C09_disconnect_reported
#print axioms C09_reorg_above_keeps_cur
#print axioms C09_no_miss
#print axioms C09_retry
#print axioms C09_retry_enqueue
#print axioms C09_source_facts
#print axioms step_walk
#print axioms catchUp_walk
#print axioms walk_run
#print axioms linkedB_get
#print axioms notifyBlock_cases
#print axioms no_miss_run
#print axioms retryLoop_spec
#print axioms qRemove_prefix
#print axioms qRemove_not_mem
