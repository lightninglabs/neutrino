/-
The uint64 arithmetic of cache/lru never wraps: every operation listed by
`stepArith` / `evictArith` (Model/Lru.lean) has its exact result in [0, 2^64)
whenever the coherence invariant holds.  Lemmas for `C16_no_overflow`.
-/
import Neutrino.Lemmas.Lru
namespace Neutrino.Lru

theorem exact_sub {a b : Nat} (h : b ≤ a) (ha : a < two64) : (Arith.sub a b).exact = true := by
  simp [Arith.exact, h, ha]

theorem exact_add {a b : Nat} (h : a + b < two64) : (Arith.add a b).exact = true := by
  simp [Arith.exact, h]

/-- `evict(needed)` from a coherent state with `needed ≤ capacity` (checked by
`evict` itself and, before that, by `Put`): no operation wraps. -/
theorem evictArith_exact (cap : Nat) (bad : List Nat) (needed : Nat) (hn : needed ≤ cap)
    (ll : List Entry) (size : Nat) (idx : List (Nat × Entry)) (h : LInv cap ll size idx) :
    ∀ x ∈ evictArith cap bad needed ll size, x.exact = true := by
  have hcond : (Arith.sub cap size).exact = true := exact_sub h.sizeLe h.capLt
  -- `evictArith` recurses as `evictLoop` does; the loop's `evicted` flag plays no part, any value will do
  induction ll, size, idx, false using evictLoop.induct cap bad needed with
  | case1 size idx ev =>
    simp only [evictArith, List.forall_mem_cons]
    refine ⟨hcond, ?_⟩
    split
    · simp only [List.forall_mem_cons]
      exact ⟨exact_sub (Nat.le_of_lt ‹_›) (Nat.lt_of_le_of_lt hn h.capLt), nofun⟩
    · nofun
  | case2 b rest size idx ev hlt hsz =>
    simp only [evictArith, hlt, hsz, ↓reduceIte, List.forall_mem_cons]
    exact ⟨hcond, nofun⟩
  | case3 b rest size idx ev hlt es hsz ih =>
    simp only [evictArith, hlt, hsz, ↓reduceIte, List.forall_mem_cons]
    cases (sizeOf?_some hsz).1
    have hrm := linv_pop h
    refine ⟨hcond, exact_sub ?_ (Nat.lt_of_le_of_lt h.sizeLe h.capLt), ih hrm (exact_sub hrm.sizeLe h.capLt)⟩
    rw [h.sizeEq, total_cons]
    exact Nat.le_add_right _ _
  | case4 b rest size idx ev hlt =>
    simp only [evictArith, hlt, ↓reduceIte, List.forall_mem_cons]
    exact ⟨hcond, nofun⟩

/-- the tail of `Put` (evict, then `c.size += vs` if that succeeded) -/
theorem evict_push_exact {cap : Nat} {bad : List Nat} {ll size idx} (sz : Nat) (hsz : sz ≤ cap)
    (h : LInv cap ll size idx) :
    ∀ x ∈ evictArith cap bad sz ll size ++
        (if (evictLoop cap bad sz ll size idx false).2.2.2.2 then
          [Arith.add (evictLoop cap bad sz ll size idx false).2.1 sz] else []),
      x.exact = true := by
  intro x hx
  rcases List.mem_append.mp hx with hx | hx
  · exact evictArith_exact cap bad sz hsz ll size idx h x hx
  · obtain ⟨h1, h2, _⟩ := evict_inv cap bad sz ll size idx false h
    split at hx
    next hok =>
      cases List.mem_singleton.1 hx
      have := Nat.add_le_of_le_sub' h1.sizeLe (h2 hok)
      exact exact_add (Nat.lt_of_le_of_lt this h.capLt)
    · cases hx

/-- `c.size -= es` for the entry the index holds -/
theorem sub_resident_exact {cap ll size idx} (h : LInv cap ll size idx) {k : Nat} {el : Entry}
    (hload : idxLoad idx k = some el) : (Arith.sub size el.size).exact = true := by
  have ht := total_erase ((h.idxIff k el).mp (idxLoad_some hload)).1
  exact exact_sub (h.sizeEq ▸ ht ▸ Nat.le_add_left _ _) (Nat.lt_of_le_of_lt h.sizeLe h.capLt)

theorem stepArith_exact (s : State) (h : Inv s) (o : Op) : ∀ x ∈ stepArith s o, x.exact = true := by
  have hl := h.linv
  fun_cases stepArith s o
  any_goals exact List.forall_mem_nil _
  -- put over a resident key
  · cases (sizeOf?_some ‹_›).1
    rw [List.cons_append, List.forall_mem_cons]
    exact ⟨sub_resident_exact hl ‹_›,
      evict_push_exact _ (Nat.le_of_not_lt ‹_›) (linv_remove hl (idxLoad_some ‹_›)).1⟩
  -- put of a new key
  · exact evict_push_exact _ (Nat.le_of_not_lt ‹_›) hl
  -- del of a resident key
  · cases (sizeOf?_some ‹_›).1
    rw [List.forall_mem_cons]
    exact ⟨sub_resident_exact hl ‹_›, nofun⟩

theorem runArith_exact (s : State) (h : Inv s) (ops : List Op) : ∀ x ∈ runArith s ops, x.exact = true := by
  induction ops generalizing s with
  | nil => nofun
  | cons o os ih =>
    intro x hx
    rcases List.mem_append.mp hx with hx | hx
    · exact stepArith_exact s h o x hx
    · exact ih _ (inv_step s o h) x hx

end Neutrino.Lru
