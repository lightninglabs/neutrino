/-
What a subscriber sees of the block manager: the replay rules of the specification on single
events, and the event streams of one rollback, one filter-header write and one `headers` message
followed on the committed chain.
-/
import Neutrino.Lemmas.BlockMgr
import Neutrino.Model.NtfnChan
namespace Neutrino.BM

theorem replay_append (v : List Nat) (a b : List Ntfn) : replay v (a ++ b) = replay (replay v a) b :=
  List.foldl_append ..

theorem replayStrict_append (v : List Nat) (a b : List Ntfn) :
    replayStrict v (a ++ b) = (replayStrict v a).bind (fun v' => replayStrict v' b) := by
  induction a generalizing v with
  | nil => rfl
  | cons e es ih =>
    simp only [List.cons_append, replayStrict]
    cases replayStrict1 v e with
    | none => rfl
    | some v' => exact ih v'

theorem replay1_of_strict {v v' : List Nat} {e : Ntfn} (h : replayStrict1 v e = some v') : replay1 v e = v' := by
  cases e with
  | conn id k f =>
    simp only [replayStrict1] at h
    simp only [replay1]
    by_cases hk : k < v.length
    · rw [if_pos hk] at h ⊢
      by_cases hid : (v[k]? == some id) = true
      · rw [if_pos hid] at h; exact Option.some.inj h
      · rw [if_neg hid] at h; cases h
    · rw [if_neg hk] at h ⊢
      by_cases hk' : k = v.length
      · rw [if_pos hk'] at h; exact Option.some.inj h
      · rw [if_neg hk'] at h; cases h
  | disc id k nt =>
    simp only [replayStrict1] at h
    simp only [replay1, Bool.and_eq_true, decide_eq_true_eq]
    by_cases hc : v.length = k + 1 ∧ v.getLast? = some id
    · rw [if_neg (Nat.not_lt_of_ge (Nat.le_of_eq hc.1.symm)), if_pos hc] at h
      rw [if_pos hc]; exact Option.some.inj h
    · rw [if_neg hc] at h ⊢
      by_cases hk : v.length < k + 1
      · rw [if_pos hk] at h; exact Option.some.inj h
      · rw [if_neg hk] at h; cases h

theorem replay_of_strict {v v' : List Nat} {es : List Ntfn} (h : replayStrict v es = some v') : replay v es = v' := by
  induction es generalizing v with
  | nil => exact Option.some.inj h
  | cons e es ih =>
    simp only [replayStrict] at h
    cases h1 : replayStrict1 v e with
    | none => rw [h1] at h; cases h
    | some w =>
      rw [h1] at h
      simp only [replay, List.foldl_cons, replay1_of_strict h1]
      exact ih h

theorem replayStrict1_conn {log : List Nat} {i : Nat} (hi : i < log.length) (f : Nat) :
    replayStrict1 (log.take i) (.conn (log.getD i 0) i f) = some (log.take (i + 1)) := by
  have hl : (log.take i).length = i := List.length_take.trans (Nat.min_eq_left (Nat.le_of_lt hi))
  simp only [replayStrict1, hl, Nat.lt_irrefl, if_false, if_true]
  rw [List.take_add_one, List.getD_eq_getElem?_getD, List.getElem?_eq_getElem hi]; rfl

theorem replayStrict1_disc_tip {log : List Nat} (hne : log ≠ []) (nt : Nat) :
    replayStrict1 log (.disc (tipId log) (tipHeight log) nt) = some log.dropLast := by
  have hl : log.length = tipHeight log + 1 := (Nat.sub_add_cancel (List.length_pos_iff.mpr hne)).symm
  simp only [replayStrict1, getLast?_eq_tipId hne, ← hl, Nat.lt_irrefl, if_false, and_self, if_true]

theorem replayStrict1_disc_above {v : List Nat} {k : Nat} (hk : v.length ≤ k) (id nt : Nat) :
    replayStrict1 v (.disc id k nt) = some v := by
  simp only [replayStrict1, Nat.lt_succ_of_le hk, if_true]

/-- the chain a subscriber must end up with: the blocks whose filter headers are committed -/
def committedOf (log : List Nat) (fst : Nat) : List Nat := log.take (fst + 1)

/-- the filter-tip part of the shared invariant (`FilterTipConsistent`): the filter store's tip is
inside the block chain and the in-memory filter tip is the store's (F10 repaired) -/
structure FInv (s : State) : Prop where
  F : s.fst < s.log.length
  G : s.ftip.height = s.fst

def committedS (s : State) : List Nat := committedOf s.log s.fst

theorem committedOf_append (log ext : List Nat) (fst : Nat) (h : fst < log.length) :
    committedOf (log ++ ext) fst = committedOf log fst :=
  List.take_append_of_le_length h

theorem committedOf_all {log : List Nat} {fst : Nat} (h : tipHeight log ≤ fst) : committedOf log fst = log :=
  List.take_of_length_le (Nat.le_add_of_sub_le h)

theorem committedOf_dropLast {log : List Nat} {fst : Nat} (h : fst < tipHeight log) :
    committedOf log.dropLast fst = committedOf log fst := by
  simp only [committedOf, List.dropLast_eq_take, List.take_take]
  exact congrArg (List.take · log) (Nat.min_eq_left h)

theorem length_committedOf {log : List Nat} {fst : Nat} (h : fst < log.length) :
    (committedOf log fst).length = fst + 1 :=
  List.length_take.trans (Nat.min_eq_left h)

theorem committedOf_take {log : List Nat} {fst h : Nat} (hle : h ≤ fst) :
    (committedOf log fst).take (h + 1) = log.take (h + 1) := by
  rw [committedOf, List.take_take, Nat.min_eq_left (Nat.succ_le_succ hle)]

theorem committedS_append {s s' : State} {ext : List Nat} (hf : FInv s) (hl : s'.log = s.log ++ ext)
    (hs : s'.fst = s.fst) (ht : s'.ftip.height = s.ftip.height) : committedS s' = committedS s ∧ FInv s' := by
  refine ⟨?_, ?_, by rw [ht, hs]; exact hf.G⟩
  · rw [committedS, hl, hs]; exact committedOf_append _ _ _ hf.F
  · rw [hl, hs, List.length_append]; exact Nat.lt_of_lt_of_le hf.F (Nat.le_add_right ..)

/-- Loop-invariant rule for `rollBackToHeight`: what holds of the block store, the filter store's
tip, the in-memory filter tip and the events sent so far before the loop, and is kept by one
iteration, holds of what the loop returns. -/
theorem rollBack_invariant (k : Nat) (P : List Nat → Nat → Node → List Ntfn → Prop)
    (step : ∀ log fst ft out, tipHeight log > k → P log fst ft out →
      P log.dropLast (if tipHeight log ≤ fst then tipHeight log - 1 else fst)
        (if tipHeight log ≤ fst then ⟨tipId log.dropLast, tipHeight log - 1⟩ else ft)
        (out ++ [.disc (tipId log) (tipHeight log) (tipId log.dropLast)]))
    (fuel : Nat) (log : List Nat) (fst : Nat) (ft : Node) (out : List Ntfn) (h0 : P log fst ft out) :
    match rollBack k fuel log fst ft out with | (l, f, t, o) => P l f t o := by
  induction fuel generalizing log fst ft out with
  | zero => exact h0
  | succ n ih =>
    have hs := step log fst ft out
    simp only [rollBack]
    by_cases hgt : tipHeight log > k
    · rw [if_pos hgt]
      by_cases hle : tipHeight log ≤ fst <;> simp only [hle, if_true, if_false] at hs ⊢ <;>
        exact ih _ _ _ _ (hs hgt h0)
    · rw [if_neg hgt]; exact h0

theorem rollBack_discReplay (t : Tbl) (k fuel : Nat) (log : List Nat) (fst : Nat) (ft : Node) :
    discReplay t [] log (rollBack k fuel log fst ft []).2.2.2 = some (rollBack k fuel log fst ft []).1 := by
  have key := rollBack_invariant k
    (fun l _ _ o => ∀ rest, discReplay t [] log (o ++ rest) = discReplay t [] l rest)
    ?_ fuel log fst ft [] (fun _ => rfl) []
  · rwa [List.append_nil] at key
  intro l _ _ o hgt ih rest
  have hpos : 0 < tipHeight l := Nat.zero_lt_of_lt hgt
  have hne : l ≠ [] := by intro e; rw [e] at hpos; exact Nat.lt_irrefl _ hpos
  have hne' : l.dropLast ≠ [] := List.ne_nil_of_length_pos (List.length_dropLast ▸ hpos)
  have hlen : l.length = tipHeight l + 1 := (Nat.sub_add_cancel (List.length_pos_iff.mpr hne)).symm
  rw [List.append_assoc, ih]
  simp only [List.singleton_append, discReplay, getLast?_eq_tipId hne, getLast?_eq_tipId hne', hlen,
    beq_self_eq_true, Bool.and_self, if_true]

/-- The rollback loop, seen by a subscriber holding the committed chain and applying the strict
rule: a disconnected event for a committed block names the held tip and pops it, one for a block
above the filter tip is ignored, and what is left is the chain committed afterwards.  The filter
store's tip and the in-memory filter tip go down together and stay inside the chain. -/
theorem rollBack_view (k fuel : Nat) (log : List Nat) (fst : Nat) (ft : Node) (hF : fst < log.length) :
    match rollBack k fuel log fst ft [] with
    | (l, f, t, o) => replayStrict (committedOf log fst) o = some (committedOf l f) ∧ f < l.length ∧
        (ft.height = fst → t.height = f) ∧ ∃ j, l = log.take j := by
  refine rollBack_invariant k
    (fun l f t o => replayStrict (committedOf log fst) o = some (committedOf l f) ∧ f < l.length ∧
      (ft.height = fst → t.height = f) ∧ ∃ j, l = log.take j) ?_ fuel log fst ft [] ?_
  · intro l f t o hgt ⟨h1, h2, h3, j, h4⟩
    have hne : l ≠ [] := by intro e; rw [e] at h2; exact Nat.not_lt_zero _ h2
    have hdl : l.dropLast.length = tipHeight l := List.length_dropLast
    have hj : ∃ j, l.dropLast = log.take j :=
      ⟨_, (List.dropLast_eq_take).trans ((congrArg _ h4).trans List.take_take)⟩
    rw [replayStrict_append, h1]
    by_cases hle : tipHeight l ≤ f
    · -- the removed block was committed: the subscriber holds the whole chain
      have hlt : tipHeight l - 1 < tipHeight l := Nat.sub_one_lt (Nat.ne_of_gt (Nat.zero_lt_of_lt hgt))
      have hall : committedOf l.dropLast (tipHeight l - 1) = l.dropLast :=
        committedOf_all (by simp only [tipHeight, hdl]; exact Nat.le_refl _)
      simp only [hle, if_true, committedOf_all hle, hall, Option.bind_some, replayStrict,
        replayStrict1_disc_tip hne]
      exact ⟨trivial, Nat.lt_of_lt_of_eq hlt hdl.symm, fun _ => trivial, hj⟩
    · have hlt : f < tipHeight l := Nat.lt_of_not_le hle
      have hab : (committedOf l f).length ≤ tipHeight l := by rw [length_committedOf h2]; exact hlt
      simp only [hle, if_false, committedOf_dropLast hlt, Option.bind_some, replayStrict,
        replayStrict1_disc_above hab]
      exact ⟨trivial, Nat.lt_of_lt_of_eq hlt hdl.symm, h3, hj⟩
  · exact ⟨rfl, hF, id, log.length, List.take_length.symm⟩

theorem rollBackTo_trace (s : State) (k : Nat) (h : FInv s) :
    replay (committedS s) (s.rollBackTo k).2 = committedS (s.rollBackTo k).1 ∧ FInv (s.rollBackTo k).1 := by
  obtain ⟨a, b, d, _⟩ := rollBack_view k s.log.length s.log s.fst s.ftip h.F
  exact ⟨replay_of_strict a, b, d h.G⟩

theorem cfWrite_ok {s : State} {stop n endH : Nat} (hi : idxOf s.log stop = some endH) (hn : n ≠ 0)
    (hle : n - 1 ≤ endH) :
    cfWrite s stop n true =
      ({ s with fst := endH, ftip := ⟨stop, endH⟩ }, { ntf := connRange s.log endH (endH - (n - 1)) n }) := by
  simp [cfWrite, hi, hn, Nat.not_lt.mpr hle]

/-- the writer's contract: the batch starts right above the filter tip -/
theorem cfWrite_aligned {s : State} {stop n : Nat} (hi : idxOf s.log stop = some (s.fst + n)) (hn : n ≠ 0) :
    cfWrite s stop n true =
      ({ s with fst := s.fst + n, ftip := ⟨stop, s.fst + n⟩ }, { ntf := connRange s.log (s.fst + n) (s.fst + 1) n }) := by
  have hstart : s.fst + n - (n - 1) = s.fst + 1 := by
    rw [Nat.add_sub_assoc (Nat.sub_le n 1), Nat.sub_sub_self (Nat.pos_of_ne_zero hn)]
  rw [cfWrite_ok hi hn (Nat.le_trans (Nat.sub_le n 1) (Nat.le_add_left n s.fst)), hstart]

theorem cfWrite_cases (s : State) (stop n : Nat) (ok : Bool) :
    (∃ endH, ok = true ∧ idxOf s.log stop = some endH ∧ n ≠ 0 ∧ n - 1 ≤ endH) ∨
    cfWrite s stop n ok = (s, { res := .err }) := by
  cases ok with
  | false => exact .inr rfl
  | true =>
    cases hi : idxOf s.log stop with
    | none => exact .inr (by simp only [cfWrite, hi]; rfl)
    | some endH =>
      by_cases hc : n = 0 ∨ n - 1 > endH
      · exact .inr (by simp [cfWrite, hi, hc])
      · exact .inl ⟨endH, rfl, rfl, fun e => hc (.inl e), Nat.le_of_not_gt fun e => hc (.inr e)⟩

theorem replay_held (v : List Nat) : ∀ (evs : List Ntfn),
    (∀ e ∈ evs, ∃ i h f, e = .conn i h f ∧ h < v.length) → replay v evs = v := by
  intro evs
  induction evs with
  | nil => intro _; rfl
  | cons e es ih =>
    intro h
    obtain ⟨i, k, f, rfl, hlt⟩ := h e (List.mem_cons_self ..)
    simp only [replay, List.foldl_cons, replay1, hlt, if_true]
    exact ih (fun e' he' => h e' (List.mem_cons_of_mem _ he'))

theorem backlogRange_some (log : List Nat) (f : Nat) : ∀ (n i : Nat), i + n ≤ log.length →
    ∃ bl, backlogRange log i n = some bl ∧
      bl.map (fun nd => Ntfn.conn nd.id nd.height f) = connRange log f i n := by
  intro n
  induction n with
  | zero => intro i _; exact ⟨[], rfl, rfl⟩
  | succ k ih =>
    intro i hle
    have hlt : i < log.length := Nat.lt_of_lt_of_le (Nat.lt_add_of_pos_right (Nat.succ_pos k)) hle
    obtain ⟨bl, hb, hr⟩ := ih (i + 1) (by rw [Nat.add_right_comm, Nat.add_assoc]; exact hle)
    refine ⟨⟨log[i], i⟩ :: bl, ?_, ?_⟩
    · simp only [backlogRange, List.getElem?_eq_getElem hlt, hb, Option.map_some]
    · simp only [List.map_cons, connRange, hr, List.getD_eq_getElem?_getD, List.getElem?_eq_getElem hlt,
        Option.getD_some]

/-- `r` continues `(s, ntf)`: its notifications are `ntf` followed by events that take a subscriber
from the chain committed in `s` to the chain committed in `r.1`, and `r.1` has a consistent filter tip.
What the loop of `handleHeadersMsg` and each way out of it does with the state and the events so far. -/
def Continues (s : State) (ntf : List Ntfn) (r : State × List Ntfn) : Prop :=
  ∃ new, r.2 = ntf ++ new ∧ replay (committedS s) new = committedS r.1 ∧ FInv r.1

theorem Continues.same {s s' : State} (ntf : List Ntfn) (hv : committedS s' = committedS s) (hf : FInv s') :
    Continues s ntf (s', ntf) :=
  ⟨[], (List.append_nil _).symm, hv.symm, hf⟩

theorem Continues.after {s s' : State} {ntf evs : List Ntfn} {r : State × List Ntfn}
    (a : replay (committedS s) evs = committedS s') (h : Continues s' (ntf ++ evs) r) : Continues s ntf r :=
  have ⟨new, e1, e2, e3⟩ := h
  ⟨evs ++ new, by rw [e1, List.append_assoc], by rw [replay_append, a, e2], e3⟩

theorem finish_continues {s : State} (c : Cfg) (l : Loc) (ntf : List Ntfn) (h : FInv s) :
    Continues s ntf (finish c s l ntf) :=
  have ⟨a, b, d⟩ := finish_fields c s l ntf
  have ⟨v, i⟩ := committedS_append h a b (congrArg _ d)
  .same ntf v i

theorem cpTest_continues {c : Cfg} {p h : Nat} {s : State} {l : Loc} {ntf : List Ntfn} {nh : Nat} {r : State × List Ntfn}
    (hr : cpTest c p h s l ntf nh = some r) (hf : FInv s) : Continues s ntf r := by
  rcases cpTest_cases c p h s l ntf nh with ⟨e, -⟩ | ⟨cp, -, -, ⟨-, e⟩ | ⟨-, e⟩⟩ <;> cases e.symm.trans hr
  · exact finish_continues c _ ntf hf
  · obtain ⟨a, b⟩ := rollBackTo_trace s (findPrevCp c.cps cp.height).height hf
    exact .after a (.same _ rfl ⟨b.F, b.G⟩)

/-- the checkpoint test both arms of the loop end with: done at a checkpoint, or on with `k` -/
theorem cpTest_orElse (c : Cfg) (p h : Nat) (s : State) (l : Loc) (ntf : List Ntfn) (nh : Nat) (k : State × List Ntfn)
    (hf : FInv s) (hk : Continues s ntf k) :
    Continues s ntf (match cpTest c p h s l ntf nh with | some r => r | none => k) := by
  cases hcp : cpTest c p h s l ntf nh with
  | some r => exact cpTest_continues hcp hf
  | none => exact hk

theorem doReorg_trace (c : Cfg) (s : State) (p h bh : Nat) (hf : FInv s) :
    replay (committedS s) (doReorg c s p h bh).2 = committedS (doReorg c s p h bh).1 ∧ FInv (doReorg c s p h bh).1 := by
  obtain ⟨a, b⟩ := rollBackTo_trace { s with sync := some p } bh ⟨hf.F, hf.G⟩
  obtain ⟨w1, w2, w3⟩ := write_fields ({ s with sync := some p }.rollBackTo bh).1 (bh + 1) [h]
  obtain ⟨d, e⟩ := committedS_append (s' := (doReorg c s p h bh).1) b w1 w2 (congrArg _ w3)
  exact ⟨a.trans d.symm, e⟩

/-- An import appends blocks above the committed ones and may commit `nf` further filter headers
WITHOUT announcing them: the invariant is kept, but a subscriber's view is the committed chain
afterwards only if no filter header was imported. -/
theorem importReset_trace (c : Cfg) (s : State) (blocks : List Nat) (nf : Nat) (hf : FInv s) :
    FInv (importReset c s blocks nf) ∧ (nf = 0 → committedS (importReset c s blocks nf) = committedS s) := by
  obtain ⟨ext, hlog⟩ : ∃ ext, (importReset c s blocks nf).log = s.log ++ ext := by
    simp only [importReset]
    split
    · exact ⟨blocks, rfl⟩
    · exact ⟨[], (List.append_nil _).symm⟩
  have hlt : s.fst < (importReset c s blocks nf).log.length := by
    rw [hlog, List.length_append]; exact Nat.lt_of_lt_of_le hf.F (Nat.le_add_right ..)
  refine ⟨⟨?_, rfl⟩, ?_⟩
  · show (if s.fst + nf ≤ tipHeight (importReset c s blocks nf).log then s.fst + nf else s.fst) < _
    split
    · rename_i h; exact Nat.lt_of_le_of_lt h (Nat.sub_one_lt (Nat.ne_of_gt (Nat.zero_lt_of_lt hlt)))
    · exact hlt
  · rintro rfl
    have hfst : (importReset c s blocks 0).fst = s.fst := ite_self _
    exact (committedS_append hf hlog hfst (hfst.trans hf.G.symm)).1

theorem cfRun_emits (endH : Nat) (log : List Nat) : ∀ (n start m : Nat) (x : Nat × Nat × Nat),
    x ∈ cfRun endH m (cfEmits log start n) → x.2.2 = m ∧ x.2.1 < start + n := by
  intro n
  induction n with
  | zero => intro start m x hx; cases hx
  | succ k ih =>
    intro start m x hx
    simp only [cfEmits, cfRun, List.mem_cons] at hx
    rcases hx with rfl | hx
    · exact ⟨rfl, Nat.lt_add_of_pos_right (Nat.succ_pos k)⟩
    · obtain ⟨a, d⟩ := ih (start + 1) m x hx
      exact ⟨a, by rw [Nat.add_succ, ← Nat.succ_add]; exact d⟩

theorem cfLockRun_emits (log : List Nat) : ∀ (n start : Nat) (held : Bool) (x : Nat × Bool),
    x ∈ cfLockRun held (cfLockEmits log start n) → x.2 = !held := by
  intro n
  induction n with
  | zero => intro start held x hx; cases hx
  | succ k ih =>
    intro start held x hx
    simp only [cfLockEmits, cfLockRun, List.mem_cons] at hx
    rcases hx with rfl | hx
    · rfl
    · exact ih (start + 1) held x hx

theorem chan_invariant (cap total : Nat) (sched : List NtfnChan.Act) (c : NtfnChan.Conf)
    (h : c.done = c.taken + c.queued ∧ c.queued ≤ cap) :
    (NtfnChan.run cap total c sched).done = (NtfnChan.run cap total c sched).taken + (NtfnChan.run cap total c sched).queued ∧
    (NtfnChan.run cap total c sched).queued ≤ cap := by
  induction sched generalizing c with
  | nil => exact h
  | cons a as ih =>
    apply ih
    cases a with
    | send =>
      simp only [NtfnChan.step]
      split
      · rename_i hc; exact ⟨congrArg (· + 1) h.1, hc.2.1⟩
      · exact h
    | recv =>
      simp only [NtfnChan.step]
      split
      · rename_i hc
        exact ⟨by rw [Nat.add_assoc, Nat.add_sub_of_le hc]; exact h.1, Nat.le_trans (Nat.sub_le ..) h.2⟩
      · exact h
    | sync =>
      simp only [NtfnChan.step]
      split
      · exact ⟨by rw [Nat.add_right_comm]; exact congrArg (· + 1) h.1, h.2⟩
      · exact h

end Neutrino.BM
