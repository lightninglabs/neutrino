/-
C13 lemmas about histories: relations between a map on network identities and the store, key by key
(`Keyed`); the invariant relating the store to the history's last unlifted ban (`Inv`), the simulation
between the store and the abstract map with 1000 ms expiry granularity (`Sim`), what `Status` answers after
a history (`status_after_run`), and the set of banned networks against the history (`Tracks`).
-/
import Neutrino.Lemmas.Ban
namespace Neutrino.Ban

theorem target_cases (tg : Target) :
    resolve tg = none ∨
    (∃ ip m, resolve tg = some (ip, m) ∧ encodeKey ip m = none ∧ netId ip m = none) ∨
    (∃ ip m k id, resolve tg = some (ip, m) ∧ encodeKey ip m = some k ∧ netId ip m = some id) := by
  cases hr : resolve tg with
  | none => exact Or.inl rfl
  | some p =>
    have hk := encodeKey_eq p.1 p.2
    cases hi : netId p.1 p.2 with
    | none => rw [hi] at hk; exact Or.inr (Or.inl ⟨p.1, p.2, rfl, hk, hi⟩)
    | some id => rw [hi] at hk; exact Or.inr (Or.inr ⟨p.1, p.2, _, id, rfl, hk, hi⟩)

theorem keyOf_of_idOf {tg : Target} {id : NetId} (h : idOf tg = some id) :
    ∃ ip m k, keyOf tg = some k ∧ encodeKey ip m = some k ∧ netId ip m = some id := by
  rcases target_cases tg with hr | ⟨ip, m, hr, -, hi⟩ | ⟨ip, m, k, id', hr, hk, hi⟩
  · simp only [idOf, hr] at h; cases h
  · simp only [idOf, hr, hi] at h; cases h
  · simp only [idOf, hr, hi] at h
    cases h
    exact ⟨ip, m, k, by simp only [keyOf, hr, hk], hk, hi⟩

/-- For every supported network, `P` relates what `f` holds under its identity to what the store holds
under its key. -/
def Keyed {α : Type} (P : Option α → Option (Int × Nat) → Prop) (f : NetId → Option α) (rs : Recs) : Prop :=
  ∀ ip m k id, encodeKey ip m = some k → netId ip m = some id → P (f id) (lookup rs k)

/-- Changing the map at one identity and the records under its key keeps the relation at every other
network (`key_eq_iff_id_eq`). -/
theorem Keyed.update {α : Type} {P : Option α → Option (Int × Nat) → Prop} {f f' : NetId → Option α}
    {rs rs' : Recs} {ip m k : Bytes} {id : NetId} {v : Option α} {w : Option (Int × Nat)}
    (h : Keyed P f rs) (hk : encodeKey ip m = some k) (hi : netId ip m = some id)
    (hf : ∀ x, f' x = if x = id then v else f x) (hl : ∀ x, lookup rs' x = if k = x then w else lookup rs x)
    (hP : P v w) : Keyed P f' rs' := by
  intro ip' m' k' id' hk' hi'
  have hiff := key_eq_iff_id_eq hk hk' hi hi'
  rw [hf, hl]
  by_cases e : id' = id
  · rw [if_pos e, if_pos (hiff.mpr e.symm)]
    exact hP
  · rw [if_neg e, if_neg fun e' => e (hiff.mp e').symm]
    exact h ip' m' k' id' hk' hi'

/-- What the store holds under key `k` (`lk`) against what the history says
about the network (`ob`), when all calls so far happened no later than `T`:
never banned / lifted ⇒ no record; banned until `b.lo = banTime + d` ⇒ the record
with the expiry truncated to seconds, or no record because a `Status` at or
after that whole second removed it. -/
def Rel (T : Int) (ob : Option BanRec) (lk : Option (Int × Nat)) : Prop :=
  match ob with
  | none => lk = none
  | some b => lk = some (b.lo / 1000, b.reason) ∨ (lk = none ∧ (b.lo / 1000) * 1000 ≤ T)

theorem Rel.mono {T T' : Int} {ob : Option BanRec} {lk : Option (Int × Nat)} (h : Rel T ob lk) (hT : T ≤ T') :
    Rel T' ob lk := by
  cases ob with
  | none => exact h
  | some b => exact h.imp_right fun h => ⟨h.1, Int.le_trans h.2 hT⟩

theorem Rel.purge {T : Int} {ob : Option BanRec} {v : Int × Nat} (h : Rel T ob (some v)) (hexp : v.1 * 1000 ≤ T) :
    Rel T ob none := by
  cases ob with
  | none => cases h
  | some b =>
    rcases h with h | h
    · cases h; exact Or.inr ⟨rfl, hexp⟩
    · cases h.1

def Inv (s : State) (o : Oracle) (T : Int) : Prop := Keyed (Rel T) o s.recs

theorem Inv.mono {s : State} {o : Oracle} {T T' : Int} (h : Inv s o T) (hT : T ≤ T') : Inv s o T' :=
  fun ip m k id hk hi => (h ip m k id hk hi).mono hT

theorem inv_init (T : Int) : Inv {} Oracle.empty T := fun _ _ _ _ _ _ => rfl

theorem inv_step (s : State) (o : Oracle) (T t : Int) (op : Op) (h : Inv s o T) (hT : T ≤ t) :
    Inv (step s t op).1 (o.note t t op) t := by
  have h' : Inv s o t := h.mono hT
  cases op with
  | reopen => exact h'
  | ban tg r d =>
    rcases target_cases tg with hr | ⟨ip, m, hr, hk, hi⟩ | ⟨ip, m, k, id, hr, hk, hi⟩
    · simp only [step, Oracle.note, idOf, hr]; exact h'
    · simp only [step, Oracle.note, idOf, hr, hk, hi]; exact h'
    · simp only [step, Oracle.note, idOf, hr, hk, hi]
      exact h'.update hk hi (fun _ => rfl) (lookup_put _ _ _) (Or.inl rfl)
  | unban tg =>
    rcases target_cases tg with hr | ⟨ip, m, hr, hk, hi⟩ | ⟨ip, m, k, id, hr, hk, hi⟩
    · simp only [step, Oracle.note, idOf, hr]; exact h'
    · simp only [step, Oracle.note, idOf, hr, hk, hi]; exact h'
    · simp only [step, Oracle.note, idOf, hr, hk, hi]
      exact h'.update hk hi (fun _ => rfl) (lookup_del _ _) rfl
  | status tg =>
    rcases target_cases tg with hr | ⟨ip, m, hr, hk, hi⟩ | ⟨ip, m, k, id, hr, hk, hi⟩
    · simp only [step, Oracle.note, hr]; exact h'
    · simp only [step, Oracle.note, hr, hk]; exact h'
    · simp only [step, Oracle.note, hr, hk]
      have hrel := h' ip m k id hk hi
      cases hl : lookup s.recs k with
      | none => exact h'
      | some v =>
        rw [hl] at hrel
        dsimp only
        by_cases hexp : t ≥ v.1 * 1000
        · rw [if_pos hexp]
          have ho : ∀ x, o x = if x = id then o id else o x := fun x => (ite_eq_right_iff.mpr fun e => e ▸ rfl).symm
          exact h'.update hk hi ho (lookup_del _ _) (hrel.purge hexp)
        · rw [if_neg hexp]; exact h'

theorem inv_run (s : State) (o : Oracle) (T : Int) (hist : Hist) (h : Inv s o T) (hm : monoFrom T hist) :
    Inv (run s hist) (lastBan o hist) (endTime T hist) := by
  induction hist generalizing s o T with
  | nil => exact h
  | cons p rest ih => exact ih _ _ _ (inv_step s o T p.1 p.2 h hm.1) hm.2

def secToMs (v : Int × Nat) : Int × Nat := (v.1 * 1000, v.2)

def Sim (s : State) (sp : Spec) : Prop :=
  ∀ ip m k id, encodeKey ip m = some k → netId ip m = some id → sp id = (lookup s.recs k).map secToMs

theorem sim_init : Sim {} Spec.empty := fun _ _ _ _ _ _ => rfl

theorem Sim.update {s : State} {sp : Spec} {rs' : Recs} {ip m k : Bytes} {id : NetId} {w : Option (Int × Nat)}
    (h : Sim s sp) (hk : encodeKey ip m = some k) (hi : netId ip m = some id)
    (hl : ∀ x, lookup rs' x = if k = x then w else lookup s.recs x) :
    Sim { recs := rs' } (sp.set id (w.map secToMs)) :=
  Keyed.update (P := fun a b => a = b.map secToMs) h hk hi (fun _ => rfl) hl rfl

theorem sim_step (s : State) (sp : Spec) (t : Int) (op : Op) (h : Sim s sp) :
    (step s t op).2 = (Spec.step 1000 sp t op).2 ∧ Sim (step s t op).1 (Spec.step 1000 sp t op).1 := by
  cases op with
  | reopen => exact ⟨rfl, h⟩
  | ban tg r d =>
    rcases target_cases tg with hr | ⟨ip, m, hr, hk, hi⟩ | ⟨ip, m, k, id, hr, hk, hi⟩
    · simp only [step, Spec.step, hr]; exact ⟨trivial, h⟩
    · simp only [step, Spec.step, hr, hk, hi]; exact ⟨trivial, h⟩
    · simp only [step, Spec.step, hr, hk, hi]
      exact ⟨trivial, h.update hk hi (lookup_put _ _ _)⟩
  | unban tg =>
    rcases target_cases tg with hr | ⟨ip, m, hr, hk, hi⟩ | ⟨ip, m, k, id, hr, hk, hi⟩
    · simp only [step, Spec.step, hr]; exact ⟨trivial, h⟩
    · simp only [step, Spec.step, hr, hk, hi]; exact ⟨trivial, h⟩
    · simp only [step, Spec.step, hr, hk, hi]
      exact ⟨trivial, h.update hk hi (lookup_del _ _)⟩
  | status tg =>
    rcases target_cases tg with hr | ⟨ip, m, hr, hk, hi⟩ | ⟨ip, m, k, id, hr, hk, hi⟩
    · simp only [step, Spec.step, hr]; exact ⟨trivial, h⟩
    · simp only [step, Spec.step, hr, hk, hi]; exact ⟨trivial, h⟩
    · simp only [step, Spec.step, hr, hk, hi]
      rw [h ip m k id hk hi]
      cases lookup s.recs k with
      | none => exact ⟨rfl, h⟩
      | some v =>
        dsimp only [Option.map, secToMs]
        by_cases hexp : t ≥ v.1 * 1000
        · rw [if_pos hexp, if_pos hexp]
          exact ⟨rfl, h.update hk hi (lookup_del _ _)⟩
        · rw [if_neg hexp, if_neg hexp]; exact ⟨rfl, h⟩

theorem sim_run (s : State) (sp : Spec) (hist : Hist) (h : Sim s sp) :
    outs s hist = Spec.outs 1000 sp hist ∧ Sim (run s hist) (Spec.run 1000 sp hist) := by
  induction hist generalizing s sp with
  | nil => exact ⟨rfl, h⟩
  | cons p rest ih =>
    obtain ⟨ho, hs⟩ := sim_step s sp p.1 p.2 h
    obtain ⟨ho', hs'⟩ := ih _ _ hs
    refine ⟨?_, hs'⟩
    show _ :: _ = _ :: _
    rw [ho, ho']

theorem lastBan_append (o : Oracle) (a b : Hist) : lastBan o (a ++ b) = lastBan (lastBan o a) b := by
  induction a generalizing o with
  | nil => rfl
  | cons p rest ih => exact ih _

theorem run_append (s : State) (a b : Hist) : run s (a ++ b) = run (run s a) b := by
  induction a generalizing s with
  | nil => rfl
  | cons p rest ih => exact ih _

theorem outs_append (s : State) (a b : Hist) : outs s (a ++ b) = outs s a ++ outs (run s a) b := by
  induction a generalizing s with
  | nil => rfl
  | cons p rest ih => exact congrArg (_ :: ·) (ih _)

/-- After any history of calls at non-decreasing times, a `Status` of a supported address at a later
time says "banned", with the recorded reason, exactly before the whole second of `banTime + duration`
of the network's last unlifted ban. -/
theorem status_after_run (T0 : Int) (hist : Hist) (now : Int) (tg : Target) (id : NetId)
    (hm : monoFrom T0 hist) (hn : endTime T0 hist ≤ now) (hid : idOf tg = some id) :
    (lastBan Oracle.empty hist id = none → (step (run {} hist) now (.status tg)).2 = .notBanned) ∧
    (∀ b, lastBan Oracle.empty hist id = some b → (step (run {} hist) now (.status tg)).2 =
      if now < b.lo / 1000 * 1000 then .banned b.reason (b.lo / 1000 * 1000) else .notBanned) := by
  obtain ⟨ip, m, k, hkey, hk, hi⟩ := keyOf_of_idOf hid
  have hrel := inv_run {} Oracle.empty T0 hist (inv_init T0) hm ip m k id hk hi
  rw [step_status_some _ now hkey]
  constructor
  · intro hob
    rw [hob] at hrel
    rw [show lookup (run {} hist).recs k = none from hrel]
  · intro b hob
    rw [hob] at hrel
    rcases hrel with h2 | h2
    · rw [h2]
      dsimp only
      by_cases hexp : now ≥ b.lo / 1000 * 1000
      · rw [if_pos hexp, if_neg (Int.not_lt.mpr hexp)]
      · rw [if_neg hexp, if_pos (Int.not_le.mp hexp)]
    · rw [h2.1, if_neg (Int.not_lt.mpr (Int.le_trans h2.2 hn))]

theorem mem_ban (b : BanSet) (id0 id : NetId) : id ∈ b.ban id0 ↔ id = id0 ∨ id ∈ b := by
  unfold BanSet.ban
  split
  next h => exact ⟨Or.inr, fun h' => h'.elim (fun e => e ▸ List.contains_iff_mem.mp h) fun m => m⟩
  next => exact List.mem_cons

theorem mem_unban (b : BanSet) (id0 id : NetId) : id ∈ b.unban id0 ↔ id ∈ b ∧ id ≠ id0 := by
  simp only [BanSet.unban, List.mem_filter, Bool.not_eq_eq_eq_not, Bool.not_true, beq_eq_false_iff_ne, ne_eq]

/-- `b` holds exactly the networks with an unlifted ban, and each of those bans ends at or after `L`. -/
def Tracks (L : Int) (b : BanSet) (o : Oracle) : Prop :=
  ∀ id, (id ∈ b ↔ (o id).isSome = true) ∧ ∀ r, o id = some r → L ≤ r.lo

theorem tracks_empty (L : Int) : Tracks L [] Oracle.empty :=
  fun _ => ⟨⟨nofun, nofun⟩, fun _ => nofun⟩

theorem Tracks.ban {L : Int} {b : BanSet} {o : Oracle} (h : Tracks L b o) (id : NetId) {r : BanRec} (hr : L ≤ r.lo) :
    Tracks L (b.ban id) (o.set id (some r)) := by
  intro x
  rw [mem_ban, Oracle.set]
  by_cases e : x = id
  · rw [if_pos e]
    exact ⟨⟨fun _ => rfl, fun _ => Or.inl e⟩, fun _ h' => Option.some.inj h' ▸ hr⟩
  · rw [if_neg e]
    exact ⟨⟨fun h' => (h x).1.mp (h'.resolve_left e), fun h' => Or.inr ((h x).1.mpr h')⟩, (h x).2⟩

theorem Tracks.unban {L : Int} {b : BanSet} {o : Oracle} (h : Tracks L b o) (id : NetId) :
    Tracks L (b.unban id) (o.set id none) := by
  intro x
  rw [mem_unban, Oracle.set]
  by_cases e : x = id
  · rw [if_pos e]
    exact ⟨⟨fun h' => absurd e h'.2, nofun⟩, fun _ => nofun⟩
  · rw [if_neg e]
    exact ⟨⟨fun h' => (h x).1.mp h'.1, fun h' => ⟨(h x).1.mpr h', e⟩⟩, (h x).2⟩

theorem Tracks.note_ban {L t : Int} {b : BanSet} {o : Oracle} (h : Tracks L b o) (tg : Target) (r : Nat) {d : Int}
    (hl : L ≤ t + d) :
    Tracks L (match idOf tg with | some id => b.ban id | none => b) (o.note t t (.ban tg r d)) := by
  rw [Oracle.note]
  cases idOf tg with
  | none => exact h
  | some id => exact h.ban id hl

theorem Tracks.note_unban {L : Int} {b : BanSet} {o : Oracle} (h : Tracks L b o) (tg : Target) (t : Int) :
    Tracks L (match idOf tg with | some id => b.unban id | none => b) (o.note t t (.unban tg)) := by
  rw [Oracle.note]
  cases idOf tg with
  | none => exact h
  | some id => exact h.unban id

end Neutrino.Ban
