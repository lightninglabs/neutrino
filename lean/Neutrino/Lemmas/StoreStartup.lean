import Neutrino.Lemmas.StoreCrash
/-
The start-up reconciliation taken step by step (`openStoreR`, `reopenR`) against
the constructor taken at once (`openStore`, `reopen`).  Wherever `openStore`
succeeds, a step-by-step start that is left alone ends on the same state, and
one that is killed leaves one of the states `CrashPoint` lists
(`openStoreR_start`).  The two recovery results are read off from that: a killed
start leaves the files ahead of the same index, and the very first start can be
killed and repeated at every instant.
-/
namespace Neutrino.Store

/-- `Outcome` for a start-up stage, which reports success by `true`: killed ⇒ a state satisfying `Cr`;
finished ⇒ success, the injection still armed, `Done` of the new context -/
abbrev StartOK (inj : Inj) (Cr : Durable → Prop) (Done : Ctx → Prop) : R Bool → Prop :=
  Outcome inj Cr fun b c' => b = true ∧ Done c'

theorem StartOK.andThen {inj : Inj} {Cr : Durable → Prop} {D1 D2 : Ctx → Prop} {r : R Bool} {next : Ctx → R Bool}
    (h1 : StartOK inj Cr D1 r) (h2 : ∀ c', c'.inj = inj → D1 c' → StartOK inj Cr D2 (next c')) :
    StartOK inj Cr D2 (r.andThen next) :=
  h1.bind fun _ c' hi ⟨hb, hd⟩ => by subst hb; exact h2 c' hi hd

theorem StartOK.mono {inj : Inj} {Cr Cr' : Durable → Prop} {D D' : Ctx → Prop} {r : R Bool}
    (h : StartOK inj Cr D r) (hc : ∀ d', Cr d' → Cr' d') (hd : ∀ c', D c' → D' c') : StartOK inj Cr' D' r :=
  Outcome.mono h hc fun _ c' ⟨hb, h⟩ => ⟨hb, hd c' h⟩

/-- `trimPartialHeader` -/
def Durable.trim (d : Durable) (w : Which) : Durable := d.setFile w { d.file w with junk := 0 }

/-- `resetInterruptedInit` -/
def Durable.resetInit (d : Durable) (w : Which) : Durable :=
  if (d.file w).ents.length = 1 ∧ d.db.hasTip w = false then d.setFile w { d.file w with ents := [] } else d

/-- the reconciling cut of `openStore`, given the file's last entry and the tip the index records -/
def cutTo (w : Which) (d : Durable) (latest : Nat) : Option (Nat × Nat) → Option Durable
  | none => none
  | some (tipId, tipH) =>
    if w = .B ∧ latest = tipId then some d
    else if tipH > (d.file w).ents.length - 1 then none
    else
      match (d.file w).truncateBy (width w) ((d.file w).ents.length - 1 - tipH) with
      | none => none
      | some f' => some (d.setFile w f')

/-- what `openStore` does once the file is trimmed and reset -/
def syncStore (w : Which) (d : Durable) : Option Durable :=
  if (d.file w).corrupt then none else
  match (d.file w).ents.getLast? with
  | none =>
    match w with
    | .B => some { d with bf := { ents := [0] }, db := d.db.addHeaders [0] 0 }
    | .F => some { d with ff := { ents := [0] }, db := { d.db with ftip := some 0 } }
  | some latest => cutTo w d latest (match w with | .B => btipHeight? d | .F => ftipHeight? d)

theorem openStore_eq (w : Which) (d : Durable) : openStore w d = syncStore w ((d.trim w).resetInit w) := by
  have key : (d.trim w).resetInit w = d.setFile w
      (if ({ d.file w with junk := 0 } : FileSt).ents.length = 1 ∧ d.db.hasTip w = false
        then { ({ d.file w with junk := 0 } : FileSt) with ents := [] } else { d.file w with junk := 0 }) := by
    unfold Durable.resetInit Durable.trim
    rw [file_setFile, setFile_db, setFile_setFile]
    split <;> rfl
  rw [key]
  unfold openStore syncStore cutTo
  rw [file_setFile]
  rfl

theorem trim_of_junk {d : Durable} {w : Which} (h : (d.file w).junk = 0) : d.trim w = d := by
  obtain ⟨⟨_, _, _⟩, ⟨_, _, _⟩, _⟩ := d
  cases w <;> cases h <;> rfl

theorem FileSt.eq_clean {f : FileSt} {xs : List Nat} (he : f.ents = xs) (hj : f.junk = 0) (hc : f.corrupt = false) :
    f = { ents := xs } := by
  cases f; cases he; cases hj; cases hc; rfl

section stages
variable {inj : Inj} (hnf : NoFault inj) (Cr : Durable → Prop) {c : Ctx} (hi : c.inj = inj) (w : Which) (hcr : Cr c.d)
include hnf hi hcr

theorem stageIndex_start : StartOK inj Cr (fun c' => c'.d = c.d) (stageIndex c) :=
  dbUpdate_outcome id c hi hnf hcr

theorem stageTrim_start : StartOK inj Cr (fun c' => c'.d = c.d.trim w) (stageTrim w c) := by
  unfold stageTrim
  by_cases hj : (c.d.file w).junk = 0
  · rw [if_pos hj, trim_of_junk hj]; exact ⟨hi, rfl, rfl⟩
  · rw [if_neg hj]; exact fileTruncate_outcome w _ c hi hnf hcr

theorem stageReset_start : StartOK inj Cr (fun c' => c'.d = c.d.resetInit w) (stageReset w c) := by
  unfold stageReset Durable.resetInit
  by_cases h : (c.d.file w).ents.length = 1 ∧ c.d.db.hasTip w = false
  · rw [if_pos h, if_pos h]; exact fileTruncate_outcome w _ c hi hnf hcr
  · rw [if_neg h, if_neg h]; exact ⟨hi, rfl, rfl⟩

theorem cutTo_start (latest : Nat) (tip : Option (Nat × Nat)) {d1 : Durable} (h : cutTo w c.d latest tip = some d1) :
    StartOK inj Cr (fun c' => c'.d = d1)
      (match (generalizing := false) tip with
       | none => R.ok false c
       | some (tipId, tipH) =>
         if w = .B ∧ latest = tipId then R.ok true c
         else if tipH > (c.d.file w).ents.length - 1 then R.ok false c
         else truncateHeaders w ((c.d.file w).ents.length - 1 - tipH) c) := by
  cases tip with
  | none => cases h
  | some p =>
    obtain ⟨tipId, tipH⟩ := p
    dsimp only [cutTo] at h ⊢
    by_cases h1 : w = .B ∧ latest = tipId
    · rw [if_pos h1] at h ⊢; exact ⟨hi, rfl, Option.some.inj h⟩
    · rw [if_neg h1] at h ⊢
      by_cases h2 : tipH > (c.d.file w).ents.length - 1
      · rw [if_pos h2] at h; cases h
      · rw [if_neg h2] at h ⊢
        cases hf : (c.d.file w).truncateBy (width w) ((c.d.file w).ents.length - 1 - tipH) with
        | none => rw [hf] at h; cases h
        | some f' => rw [hf] at h; cases h; exact truncateHeaders_outcome w c hi hnf hf hcr

/-- the last stage: killed before the reconciling truncate, or inside the genesis write -/
theorem stageSync_start {d1 : Durable} (hj : (c.d.file w).junk = 0) (h : syncStore w c.d = some d1)
    (hw : (c.d.file w).ents = [] → ∀ t, Cr (c.d.setFile w ((c.d.file w).appendBytes (width w) [0] t))) :
    StartOK inj Cr (fun c' => c'.d = d1) (stageSync w c) := by
  unfold syncStore at h
  unfold stageSync
  cases hc : (c.d.file w).corrupt
  case true => rw [hc, if_pos rfl] at h; cases h
  dsimp only
  rw [hc, if_neg Bool.false_ne_true] at h ⊢
  cases hl : (c.d.file w).ents.getLast? with
  | none =>
    -- the file is empty and clean: the genesis entry is written and indexed
    have hf := FileSt.eq_clean (List.getLast?_eq_none_iff.mp hl) hj hc
    rw [hl] at h
    have genesis : ∀ g, StartOK inj Cr (fun c' => c'.d = { c.d.setFile w { ents := [0] } with db := g c.d.db })
        ((appendThenIndex w [0] g c).bind fun o c => R.ok (o == Out.ok) c) := fun g =>
      (appendThenIndex_outcome w [0] g c hi hnf (hw (congrArg _ hf))).bind fun o c' hi' ⟨ho, hc'⟩ => by
        subst ho
        exact ⟨hi', rfl, hc'.trans (by rw [hf, appendAll_clean _ _ _ (width_pos _)]; rfl)⟩
    cases w with
    | B =>
      cases h
      rw [writeBlocks_eq (List.cons_ne_nil 0 [])]
      exact genesis _
    | F =>
      cases h
      rw [writeFilters_eq (List.cons_ne_nil 0 [])]
      exact genesis _
  | some latest =>
    rw [hl] at h
    exact cutTo_start hnf Cr hi w hcr latest _ h

end stages

theorem junk_trim (d : Durable) (w : Which) : ((d.trim w).file w).junk = 0 := by
  unfold Durable.trim; rw [file_setFile]

theorem junk_resetInit {d : Durable} {w : Which} (h : (d.file w).junk = 0) : ((d.resetInit w).file w).junk = 0 := by
  unfold Durable.resetInit
  split
  · rw [file_setFile]; exact h
  · exact h

/-- the states a killed `openStoreR w` can leave behind when started on `d`: `d` itself, `d` trimmed, `d` trimmed
and reset, and — where that leaves the file empty — any part of the genesis entry written -/
def CrashPoint (w : Which) (d d' : Durable) : Prop :=
  d' = d ∨ d' = d.trim w ∨ d' = (d.trim w).resetInit w ∨
    (((d.trim w).resetInit w).file w).ents = [] ∧
      ∃ t, d' = ((d.trim w).resetInit w).setFile w ((((d.trim w).resetInit w).file w).appendBytes (width w) [0] t)

/-- **One store's constructor, killed anywhere**: wherever `openStore` succeeds, the step-by-step constructor
left alone ends on the same state, and killed before any of its durable steps it leaves a `CrashPoint`. -/
theorem openStoreR_start (w : Which) (c : Ctx) {inj : Inj} {d1 : Durable} (hi : c.inj = inj) (hnf : NoFault inj)
    (h : openStore w c.d = some d1) : StartOK inj (CrashPoint w c.d) (fun c' => c'.d = d1) (openStoreR w c) := by
  rw [openStore_eq] at h
  unfold openStoreR
  refine StartOK.andThen (D1 := fun c' => c'.d = (c.d.trim w).resetInit w) ?_ ?_
  refine StartOK.andThen (D1 := fun c' => c'.d = c.d.trim w) ?_ ?_
  refine (stageIndex_start hnf _ hi (Or.inl rfl)).andThen ?_
  · intro c1 hi1 hd1
    rw [← hd1]
    exact stageTrim_start hnf _ hi1 w (Or.inl rfl)
  · intro c2 hi2 hd2
    rw [← hd2]
    exact stageReset_start hnf _ hi2 w (Or.inr (Or.inl hd2))
  · intro c3 hi3 hd3
    rw [← hd3] at h
    refine stageSync_start hnf _ hi3 w (Or.inr (Or.inr (Or.inl hd3))) ?_ h fun he t => ?_
    · rw [hd3]; exact junk_resetInit (junk_trim c.d w)
    · rw [hd3] at he ⊢; exact Or.inr (Or.inr (Or.inr ⟨he, t, rfl⟩))

theorem reopenR_start (c : Ctx) {d1 d2 : Durable} (hnf : NoFault c.inj) (hB : openStore .B c.d = some d1)
    (hF : openStore .F d1 = some d2) (Cr : Durable → Prop) (h1 : ∀ d', CrashPoint .B c.d d' → Cr d')
    (h2 : ∀ d', CrashPoint .F d1 d' → Cr d') : StartOK c.inj Cr (fun c' => c'.d = d2) (reopenR c) := by
  unfold reopenR
  refine ((openStoreR_start .B c rfl hnf hB).mono h1 fun _ h => h).andThen ?_
  intro c1 hi1 hd1
  rw [← hd1] at hF h2
  exact (openStoreR_start .F c1 hi1 hnf hF).mono h2 fun _ h => h

theorem reopenR_of_reopen {d r : Durable} (s : Nat) (h : reopen d = some r) :
    ∃ c', reopenR { d := d, step := s, inj := .none } = .ok true c' ∧ c'.d = r := by
  obtain ⟨d1, hB, hF⟩ := Option.bind_eq_some_iff.mp h
  have hR := reopenR_start { d := d, step := s, inj := .none } trivial hB hF (fun _ => True)
    (fun _ _ => trivial) (fun _ _ => trivial)
  cases hres : reopenR { d := d, step := s, inj := .none } with
  | crashed d' => rw [hres] at hR; obtain ⟨⟨k, t, hk⟩, _⟩ := hR; cases hk
  | ok b c' => rw [hres] at hR; obtain ⟨_, rfl, hd⟩ := hR; exact ⟨c', rfl, hd⟩

/-- any state whose files are ahead of an index representing `l` -/
def AheadOf (l : Log) (d : Durable) : Prop := ∃ xb xf, Ahead d l xb xf

theorem Ahead.file_ne {d : Durable} {l : Log} {xb xf : List Nat} (h : Ahead d l xb xf) (w : Which) :
    (d.file w).ents ≠ [] := by
  cases w
  · rw [Durable.file, h.bents]; exact fun e => h.neB (List.append_eq_nil_iff.mp e).1
  · rw [Durable.file, h.fents]; exact fun e => h.neF (List.append_eq_nil_iff.mp e).1

/-- junk is not part of `Ahead` -/
theorem Ahead.trim {d : Durable} {l : Log} {xb xf : List Nat} (h : Ahead d l xb xf) (w : Which) :
    Ahead (d.trim w) l xb xf := by
  cases w <;> exact { h with bents := h.bents, fents := h.fents, bclean := h.bclean, fclean := h.fclean }

theorem resetInit_of_hasTip {d : Durable} {w : Which} (h : d.db.hasTip w = true) : d.resetInit w = d := by
  unfold Durable.resetInit
  rw [if_neg]
  intro ⟨_, h'⟩
  rw [h] at h'; cases h'

/-- a store that is trimmed, has its tip and a non-empty file takes no durable step but the index's own -/
theorem crashPoint_done {w : Which} {d d' : Durable} (hc : CrashPoint w d d') (hj : (d.file w).junk = 0)
    (ht : d.db.hasTip w = true) (hne : (d.file w).ents ≠ []) : d' = d := by
  rw [CrashPoint, trim_of_junk hj, resetInit_of_hasTip ht] at hc
  rcases hc with h | h | h | ⟨he, _⟩
  · exact h
  · exact h
  · exact h
  · exact absurd he hne

theorem Ahead.crashPoint {d d' : Durable} {l : Log} {xb xf : List Nat} {w : Which} (h : Ahead d l xb xf)
    (hc : CrashPoint w d d') : AheadOf l d' := by
  have hs : (d.trim w).resetInit w = d.trim w := resetInit_of_hasTip ((h.trim w).indexed.hasTip w)
  rw [CrashPoint, hs] at hc
  rcases hc with rfl | rfl | rfl | ⟨he, _⟩
  · exact ⟨xb, xf, h⟩
  · exact ⟨xb, xf, h.trim w⟩
  · exact ⟨xb, xf, h.trim w⟩
  · exact absurd he ((h.trim w).file_ne w)

/-- **A start killed at any of its durable steps** leaves a state whose files
are again ahead of the same index — so the next start, and the one after a
further kill, recover the same log; an undisturbed start ends on a state that
represents the indexed log exactly. -/
theorem reopenR_ahead (c : Ctx) (l : Log) (xb xf : List Nat) (h : Ahead c.d l xb xf) (hnf : NoFault c.inj) :
    StartOK c.inj (AheadOf l)
      (fun c' => c'.d = { bf := { ents := l.blocks }, ff := { ents := l.filters }, db := c.d.db } ∧ Rep c'.d l)
      (reopenR c) := by
  refine (reopenR_start c hnf h.openB h.cutB.openF _ (fun _ => h.crashPoint) fun _ => h.cutB.crashPoint).mono
    (fun _ h => h) fun c' hc' => ?_
  have e : c'.d = { bf := { ents := l.blocks }, ff := { ents := l.filters }, db := c.d.db } := hc'
  exact ⟨e, e ▸ Indexed.rep (d := ⟨_, _, c.d.db⟩) h.indexed rfl rfl⟩

/-- an undisturbed step-by-step start is the `reopen` of the other theorems -/
theorem reopenR_quiet (d : Durable) (s : Nat) (l : Log) (xb xf : List Nat) (h : Ahead d l xb xf) :
    ∃ c', reopenR { d := d, step := s, inj := .none } = .ok true c' ∧ reopen d = some c'.d := by
  obtain ⟨r, hr, _⟩ := reopen_ahead_eq h
  obtain ⟨c', h1, h2⟩ := reopenR_of_reopen s hr
  exact ⟨c', h1, h2 ▸ hr⟩

/-- Every on-disk state the very first start can leave behind when it is killed
— before, within (a torn write of `jb`/`jf` bytes) or after each of its file
writes and index transactions — or that a later start leaves when it is killed
while repeating an interrupted initialisation. -/
def FirstInit (d : Durable) : Prop :=
  (∃ jb, d = { bf := { ents := [], junk := jb }, ff := { ents := [] }, db := {} }) ∨
  d = { bf := { ents := [0] }, ff := { ents := [] }, db := {} } ∨
  (∃ jf, d = { bf := { ents := [0] }, ff := { ents := [], junk := jf }, db := { idx := [(0, 0)], btip := some 0 } }) ∨
  d = { bf := { ents := [0] }, ff := { ents := [0] }, db := { idx := [(0, 0)], btip := some 0 } }

theorem appendBytes_genesis (w t : Nat) (hw : 0 < w) :
    ({ ents := [] } : FileSt).appendBytes w [0] t = if t < w then { ents := [], junk := t } else { ents := [0] } := by
  simp only [FileSt.appendBytes, List.length_singleton, ↓reduceIte, List.nil_append]
  by_cases h : t < w
  · simp [h, Nat.div_eq_of_lt h, Nat.mod_eq_of_lt h]
  · have : 1 ≤ t / w := (Nat.le_div_iff_mul_le hw).mpr (by omega)
    simp [h, Nat.min_eq_right this]

/-- killed while the block store is being initialised -/
theorem FirstInit.crashB {d d' : Durable} (h : FirstInit d) (hc : CrashPoint .B d d') : FirstInit d' := by
  have torn : ∀ t, FirstInit
      { bf := ({ ents := [] } : FileSt).appendBytes (width .B) [0] t, ff := { ents := [] }, db := {} } := by
    intro t
    rw [appendBytes_genesis _ _ (width_pos .B)]
    split
    · exact Or.inl ⟨t, rfl⟩
    · exact Or.inr (Or.inl rfl)
  rcases h with ⟨jb, rfl⟩ | rfl | ⟨jf, rfl⟩ | rfl
  · rcases hc with rfl | rfl | rfl | ⟨_, t, rfl⟩
    · exact Or.inl ⟨jb, rfl⟩
    · exact Or.inl ⟨0, rfl⟩
    · exact Or.inl ⟨0, rfl⟩
    · exact torn t
  · rcases hc with rfl | rfl | rfl | ⟨_, t, rfl⟩
    · exact Or.inr (Or.inl rfl)
    · exact Or.inr (Or.inl rfl)
    · exact Or.inl ⟨0, rfl⟩
    · exact torn t
  · cases crashPoint_done hc rfl rfl (List.cons_ne_nil _ _)
    exact Or.inr (Or.inr (Or.inl ⟨jf, rfl⟩))
  · cases crashPoint_done hc rfl rfl (List.cons_ne_nil _ _)
    exact Or.inr (Or.inr (Or.inr rfl))

/-- killed while the filter store is being initialised, the block store being complete -/
theorem FirstInit.crashF {d d' : Durable} (h : FirstInit d) (hb : d.db.btip = some 0) (hc : CrashPoint .F d d') :
    FirstInit d' := by
  have torn : ∀ t, FirstInit
      { bf := { ents := [0] }, ff := ({ ents := [] } : FileSt).appendBytes (width .F) [0] t,
        db := { idx := [(0, 0)], btip := some 0 } } := by
    intro t
    rw [appendBytes_genesis _ _ (width_pos .F)]
    split
    · exact Or.inr (Or.inr (Or.inl ⟨t, rfl⟩))
    · exact Or.inr (Or.inr (Or.inr rfl))
  rcases h with ⟨jb, rfl⟩ | rfl | ⟨jf, rfl⟩ | rfl
  · cases hb
  · cases hb
  · rcases hc with rfl | rfl | rfl | ⟨_, t, rfl⟩
    · exact Or.inr (Or.inr (Or.inl ⟨jf, rfl⟩))
    · exact Or.inr (Or.inr (Or.inl ⟨0, rfl⟩))
    · exact Or.inr (Or.inr (Or.inl ⟨0, rfl⟩))
    · exact torn t
  · rcases hc with rfl | rfl | rfl | ⟨_, t, rfl⟩
    · exact Or.inr (Or.inr (Or.inr rfl))
    · exact Or.inr (Or.inr (Or.inr rfl))
    · exact Or.inr (Or.inr (Or.inl ⟨0, rfl⟩))
    · exact torn t

theorem FirstInit.openB {d : Durable} (h : FirstInit d) :
    ∃ d1, openStore .B d = some d1 ∧ FirstInit d1 ∧ d1.db.btip = some 0 ∧ openStore .F d1 = some init := by
  rcases h with ⟨jb, rfl⟩ | rfl | ⟨jf, rfl⟩ | rfl
  · exact ⟨_, rfl, Or.inr (Or.inr (Or.inl ⟨0, rfl⟩)), rfl, rfl⟩
  · exact ⟨_, rfl, Or.inr (Or.inr (Or.inl ⟨0, rfl⟩)), rfl, rfl⟩
  · exact ⟨_, rfl, Or.inr (Or.inr (Or.inl ⟨jf, rfl⟩)), rfl, rfl⟩
  · exact ⟨_, rfl, Or.inr (Or.inr (Or.inr rfl)), rfl, rfl⟩

/-- **The very first start is restartable at every instant**: from every state
a killed first start (or a killed repetition of it) can leave, a start that is
killed again — before any of its durable steps, a file write at any torn length
— leaves another such state, and an undisturbed one yields exactly the freshly
initialised stores. -/
theorem reopenR_firstInit (c : Ctx) (h : FirstInit c.d) (hnf : NoFault c.inj) :
    StartOK c.inj FirstInit (fun c' => c'.d = init) (reopenR c) := by
  obtain ⟨d1, hB, h1, hb, hF⟩ := h.openB
  exact reopenR_start c hnf hB hF _ (fun _ => h.crashB) fun _ => h1.crashF hb

/-- what a killed start leaves, read off `exec`: a state the kill allows, or the state an undisturbed start ends on -/
theorem exec_reopen_killed {d : Durable} {k t : Nat} {Cr : Durable → Prop} {Done : Ctx → Prop}
    (h : StartOK (.crash k t) Cr Done (reopenR { d := d, inj := .crash k t })) :
    Cr (exec d .reopen (.crash k t)).1 ∨ ∃ c', Done c' ∧ (exec d .reopen (.crash k t)).1 = c'.d := by
  simp only [exec]
  cases hres : reopenR { d := d, inj := .crash k t } with
  | crashed d' => rw [hres] at h; exact Or.inl h.2
  | ok b c' => rw [hres] at h; obtain ⟨_, rfl, hd⟩ := h; exact Or.inr ⟨c', hd, rfl⟩

end Neutrino.Store
