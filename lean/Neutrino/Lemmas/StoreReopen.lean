import Neutrino.Lemmas.StoreRep
namespace Neutrino.Store

/-- `Ahead d l`: the index represents the log `l`, and each flat file holds the
log's entries followed by further whole entries and possibly a partial one —
the shape every crash leaves behind (the files are never behind the index). -/
structure Ahead (d : Durable) (l : Log) (xb xf : List Nat) : Prop where
  bents : d.bf.ents = l.blocks ++ xb
  fents : d.ff.ents = l.filters ++ xf
  bclean : d.bf.corrupt = false
  fclean : d.ff.corrupt = false
  neB   : l.blocks ≠ []
  neF   : l.filters ≠ []
  nodup : (l.blocks ++ xb).Nodup
  idxPos  : ∀ i id, l.blocks[i]? = some id → d.db.height? id = some i
  idxOnly : ∀ id h, d.db.height? id = some h → l.blocks[h]? = some id
  btip  : d.db.btip = l.blocks.getLast?
  ftip  : ∃ b, d.db.ftip = some b ∧ d.db.height? b = some (l.filters.length - 1)
  fle   : l.filters.length ≤ l.blocks.length

theorem Ahead.indexed {d : Durable} {l : Log} {xb xf : List Nat} (h : Ahead d l xb xf) : Indexed d.db l :=
  ⟨h.neB, h.neF, h.idxPos, h.idxOnly, h.btip, h.ftip, h.fle⟩

/-- files that hold the indexed entries and more, whatever their partial entry -/
theorem Indexed.ahead {d : Durable} {l : Log} {xb xf : List Nat} {jb jf : Nat} (h : Indexed d.db l)
    (hb : d.bf = { ents := l.blocks ++ xb, junk := jb }) (hf : d.ff = { ents := l.filters ++ xf, junk := jf })
    (hnd : (l.blocks ++ xb).Nodup) : Ahead d l xb xf :=
  ⟨by rw [hb], by rw [hf], by rw [hb], by rw [hf], h.neB, h.neF, hnd, h.idxPos, h.idxOnly, h.btip, h.ftip, h.fle⟩

theorem Rep.ahead {d : Durable} {l : Log} (h : Rep d l) : Ahead d l [] [] :=
  h.indexed.ahead (by rw [h.bents, List.append_nil]) (by rw [h.fents, List.append_nil])
    (by rw [List.append_nil]; exact h.nodup)

theorem take_append_len {α} (a b : List α) : (a ++ b).take a.length = a := by simp

/-- One store's start-up on a file that holds the indexed entries `xs` and then
whatever else: the file is cut back to `xs`.  (The block store skips the cut
when the file's last entry is the indexed tip: `hsame` says nothing follows it then.) -/
theorem openStore_ahead (w : Which) (d : Durable) (xs extra : List Nat) (tipId : Nat)
    (hents : (d.file w).ents = xs ++ extra) (hclean : (d.file w).corrupt = false) (hne : xs ≠ [])
    (hhas : d.db.hasTip w = true)
    (htip : (match w with | .B => btipHeight? d | .F => ftipHeight? d) = some (tipId, xs.length - 1))
    (hsame : w = .B → (xs ++ extra).getLast? = some tipId → extra = []) :
    openStore w d = some (d.setFile w { ents := xs }) := by
  obtain ⟨latest, hlatest⟩ := Option.isSome_iff_exists.mp (List.getLast?_isSome.mpr (by simp [hne] : xs ++ extra ≠ []))
  have hlen : xs.length - 1 + 1 = xs.length := Nat.sub_add_cancel (List.length_pos_iff.mpr hne)
  have hk : (xs ++ extra).length - 1 - (xs.length - 1) = extra.length := by
    rw [List.length_append, ← hlen, Nat.add_sub_cancel, Nat.add_right_comm, Nat.add_sub_cancel, Nat.add_sub_cancel_left]
  have hle : ¬ xs.length - 1 > (xs ++ extra).length - 1 := by
    rw [List.length_append, Nat.not_lt]; exact Nat.sub_le_sub_right (Nat.le_add_right _ _) 1
  have hcut : ∀ w, ({ ents := xs ++ extra } : FileSt).truncateBy w extra.length = some { ents := xs } :=
    fun w => truncateBy_append _ w rfl
  cases w
  · simp only [openStore, hhas, hents, hclean, hlatest, setFile_setFile, btipHeight?_setFile, htip,
      Bool.true_eq_false, and_false, if_false, Bool.false_eq_true, true_and]
    split
    · rename_i h
      rw [hsame rfl (by rw [hlatest, h]), List.append_nil]
    · simp only [hk, hcut]
  · simp only [openStore, hhas, hents, hclean, hlatest, setFile_setFile, ftipHeight?_setFile, htip,
      Bool.true_eq_false, and_false, if_false, Bool.false_eq_true, reduceCtorEq, false_and]
    simp only [hk, hcut, hle, if_false]

theorem Indexed.hasTip {db : Db} {l : Log} (h : Indexed db l) (w : Which) : db.hasTip w = true := by
  cases w
  · obtain ⟨tip, htip⟩ := Option.isSome_iff_exists.mp (List.getLast?_isSome.mpr h.neB)
    simp [Db.hasTip, h.btip, htip]
  · obtain ⟨b, hb, _⟩ := h.ftip
    simp [Db.hasTip, hb]

theorem Ahead.openB {d : Durable} {l : Log} {xb xf : List Nat} (h : Ahead d l xb xf) :
    openStore .B d = some (d.setFile .B { ents := l.blocks }) := by
  obtain ⟨tip, htip, hbt⟩ := h.indexed.btipHeight (d := d) rfl
  refine openStore_ahead .B d l.blocks xb tip h.bents h.bclean h.neB (h.indexed.hasTip .B) hbt fun _ hlast => ?_
  -- the tip is among the indexed entries, and no id is stored twice
  cases xb with
  | nil => rfl
  | cons x xs =>
    obtain ⟨t, ht⟩ := Option.isSome_iff_exists.mp (List.getLast?_isSome.mpr (List.cons_ne_nil x xs))
    rw [List.getLast?_append, ht, Option.some_or] at hlast
    exact absurd rfl ((List.nodup_append.mp h.nodup).2.2 tip (List.mem_of_getLast? htip) tip
      (List.mem_of_getLast? (hlast ▸ ht)))

theorem Ahead.openF {d : Durable} {l : Log} {xb xf : List Nat} (h : Ahead d l xb xf) :
    openStore .F d = some (d.setFile .F { ents := l.filters }) := by
  obtain ⟨b, hft⟩ := h.indexed.ftipHeight (d := d) rfl
  exact openStore_ahead .F d l.filters xf b h.fents h.fclean h.neF (h.indexed.hasTip .F) hft (fun hc => nomatch hc)

theorem Ahead.cutB {d : Durable} {l : Log} {xb xf : List Nat} (h : Ahead d l xb xf) :
    Ahead (d.setFile .B { ents := l.blocks }) l [] xf :=
  { h with bents := (List.append_nil _).symm, fents := h.fents, bclean := rfl, fclean := h.fclean,
           nodup := by rw [List.append_nil]; exact (List.nodup_append.mp h.nodup).1 }

/-- Start-up reconciliation brings every `Ahead` state back to a state that
represents the indexed log exactly. -/
theorem reopen_ahead_eq {d : Durable} {l : Log} {xb xf : List Nat} (h : Ahead d l xb xf) :
    ∃ r, reopen d = some r ∧ (r.bf = { ents := l.blocks } ∧ r.ff = { ents := l.filters } ∧ r.db = d.db) ∧ Rep r l :=
  ⟨(d.setFile .B { ents := l.blocks }).setFile .F { ents := l.filters },
    by rw [reopen, h.openB, Option.bind_some, h.cutB.openF], ⟨rfl, rfl, rfl⟩, Indexed.rep h.indexed rfl rfl⟩

theorem reopen_ahead {d : Durable} {l : Log} {xb xf : List Nat} (h : Ahead d l xb xf) :
    ∃ r, reopen d = some r ∧ Rep r l := by
  obtain ⟨r, h1, _, h2⟩ := reopen_ahead_eq h
  exact ⟨r, h1, h2⟩

end Neutrino.Store
