import Neutrino.Model.SubsReg
namespace Neutrino.Subs.Reg

variable (cap : Nat)

theorem run_append (s : St) (a b : List Ev) : run cap s (a ++ b) = run cap (run cap s a) b := by
  induction a generalizing s with
  | nil => rfl
  | cons e es ih => exact ih (step cap s e)

/-- the invariant: never blocked; while the handler works on the request, and as long as the
request has not been taken, the reply buffer is empty -/
structure Inv (s : St) : Prop where
  notBlocked : s.h ≠ .blocked
  busyEmpty  : s.h = .lookup ∨ s.h = .reply → s.buf = 0
  freshEmpty : s.c = .sending → s.buf = 0
  busyTaken  : s.h = .lookup ∨ s.h = .reply → s.c ≠ .sending

theorem inv_init : Inv init := ⟨nofun, fun _ => rfl, fun _ => rfl, nofun⟩

/-- under the invariant the reply send finds room in the buffer -/
theorem Inv.room {cap : Nat} (hcap : 1 ≤ cap) {s : St} (h : Inv s) (hr : s.h = .reply) : s.buf < cap :=
  (h.busyEmpty (.inr hr)).symm ▸ hcap

theorem step_reply (hcap : 1 ≤ cap) (s : St) (h : Inv s) (hr : s.h = .reply) :
    step cap s .reply = { s with h := .idle, buf := s.buf + 1 } := by
  simp only [step, hr, if_pos (h.room hcap hr)]

theorem inv_step (hcap : 1 ≤ cap) (s : St) (e : Ev) (h : Inv s) : Inv (step cap s e) := by
  fun_cases step cap s e
  -- a disabled event leaves the state as it is; the arms that fire follow, in the order of `step`
  any_goals exact h
  -- take
  · exact ⟨nofun, fun _ => h.freshEmpty ‹_›, nofun, fun _ => nofun⟩
  -- lookupDone
  · exact ⟨nofun, fun _ => h.busyEmpty (.inl ‹_›), h.freshEmpty, fun _ => h.busyTaken (.inl ‹_›)⟩
  -- reply into the buffer
  · exact ⟨nofun, nofun, fun hc => absurd hc (h.busyTaken (.inr ‹_›)), nofun⟩
  -- reply with the buffer full, handed over
  · exact absurd (h.room hcap ‹_›) ‹_›
  -- reply with the buffer full, blocked
  · exact absurd (h.room hcap ‹_›) ‹_›
  -- clientRecv
  · exact ⟨h.notBlocked, (fun hh => nomatch ‹s.buf = Nat.succ _›.symm.trans (h.busyEmpty hh)), nofun, fun _ => nofun⟩
  -- clientGiveUp from `sending`
  · exact ⟨h.notBlocked, h.busyEmpty, nofun, fun _ => nofun⟩
  -- clientGiveUp from `waiting`
  · exact ⟨h.notBlocked, h.busyEmpty, nofun, fun _ => nofun⟩
  -- quitClose
  · exact ⟨h.notBlocked, h.busyEmpty, h.freshEmpty, h.busyTaken⟩
  -- handlerExit
  · exact ⟨nofun, nofun, h.freshEmpty, nofun⟩

theorem inv_run (hcap : 1 ≤ cap) (s : St) (evs : List Ev) (h : Inv s) : Inv (run cap s evs) := by
  induction evs generalizing s with
  | nil => exact h
  | cons e es ih => exact ih _ (inv_step cap hcap s e h)

/-- from any state meeting the invariant: quit closed, then the handler's own three moves end in `exited` -/
theorem exit_after_quit (hcap : 1 ≤ cap) (s : St) (h : Inv s) :
    (run cap s [.quitClose, .lookupDone, .reply, .handlerExit]).h = .exited := by
  obtain ⟨hp, cp, buf, quit⟩ := s
  have hlt : 0 < cap := hcap
  cases hp with
  | idle => rfl
  | lookup => cases h.busyEmpty (.inl rfl); simp only [run, step, hlt, ↓reduceIte]
  | reply => cases h.busyEmpty (.inr rfl); simp only [run, step, hlt, ↓reduceIte]
  | blocked => exact absurd rfl h.notBlocked
  | exited => rfl

/-- once the request has been taken the caller never goes back to sending it -/
theorem step_taken (s : St) (e : Ev) (hc : s.c ≠ .sending) : (step cap s e).c ≠ .sending := by
  fun_cases step cap s e <;> first | exact hc | nofun

theorem step_take (s : St) (hc : s.c ≠ .sending) : step cap s .take = s := by
  simp only [step]; split
  · contradiction
  · rfl

theorem step_client (s : St) {e : Ev} (he : e.ofClient = true) :
    (step cap s e).h = s.h ∧ (step cap s e).quit = s.quit := by
  fun_cases step cap s e <;> first | exact ⟨rfl, rfl⟩ | cases he

/-- once the request has been taken, what an event does to the handler and the quit flag depends on
those two alone: not on where the caller is, nor on the reply buffer -/
theorem step_handler (hcap : 1 ≤ cap) (s t : St) (e : Ev) (hs : Inv s) (ht : Inv t)
    (cs : s.c ≠ .sending) (ct : t.c ≠ .sending) (hh : s.h = t.h) (hq : s.quit = t.quit) (he : e.ofClient = false) :
    (step cap s e).h = (step cap t e).h ∧ (step cap s e).quit = (step cap t e).quit := by
  obtain ⟨hp, cp, buf, quit⟩ := s
  obtain ⟨hp', cp', buf', quit'⟩ := t
  cases hh; cases hq
  cases e with
  | take => rw [step_take cap _ cs, step_take cap _ ct]; exact ⟨rfl, rfl⟩
  | lookupDone => cases hp <;> exact ⟨rfl, rfl⟩
  | reply =>
    cases hp with
    | reply => rw [step_reply cap hcap _ hs rfl, step_reply cap hcap _ ht rfl]; exact ⟨rfl, rfl⟩
    | _ => exact ⟨rfl, rfl⟩
  | clientRecv => cases he
  | clientGiveUp => cases he
  | quitClose => exact ⟨rfl, rfl⟩
  | handlerExit => cases hp <;> cases quit <;> exact ⟨rfl, rfl⟩

theorem run_handler (hcap : 1 ≤ cap) (evs : List Ev) (s t : St) (hs : Inv s) (ht : Inv t)
    (cs : s.c ≠ .sending) (ct : t.c ≠ .sending) (hh : s.h = t.h) (hq : s.quit = t.quit) :
    (run cap s evs).h = (run cap t (evs.filter fun e => !e.ofClient)).h ∧
    (run cap s evs).quit = (run cap t (evs.filter fun e => !e.ofClient)).quit := by
  induction evs generalizing s t with
  | nil => exact ⟨hh, hq⟩
  | cons e es ih =>
    have is := inv_step cap hcap s e hs
    have cs' := step_taken cap s e cs
    cases he : e.ofClient with
    | true =>
      rw [List.filter_cons_of_neg (by simp [he])]
      exact ih _ t is ht cs' ct ((step_client cap s he).1.trans hh) ((step_client cap s he).2.trans hq)
    | false =>
      rw [List.filter_cons_of_pos (by simp [he])]
      obtain ⟨hh', hq'⟩ := step_handler cap hcap s t e hs ht cs ct hh hq he
      exact ih _ _ is (inv_step cap hcap t e ht) cs' (step_taken cap t e ct) hh' hq'

end Neutrino.Subs.Reg
