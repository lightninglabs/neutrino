/- Lemmas for C17 "Stop mid-reorganisation" (model: Neutrino/Model/StopReorg.lean). -/
import Neutrino.Model.StopReorg
namespace Neutrino.StopReorg

theorem popOne_ofChain (c : List Nat) : popOne (ofChain c) = ofChain c.dropLast := by
  simp only [popOne, ofChain, List.length_dropLast]

theorem rollBackQ_ofChain (h : Nat) (q : Option Nat) (fuel : Nat) :
    ∀ (iter : Nat) (c : List Nat), c.length ≤ h + 1 + fuel →
      rollBackQ false h q iter fuel (ofChain c) = ofChain (c.take (h + 1)) := by
  induction fuel with
  | zero => intro iter c hf; rw [rollBackQ, List.take_of_length_le hf]
  | succ fuel ih =>
    intro iter c hf
    have tip : (ofChain c).tip = c.length - 1 := rfl
    rw [rollBackQ, tip]
    by_cases hlt : h < c.length - 1
    · rw [if_pos hlt, Bool.false_and, if_neg Bool.false_ne_true, popOne_ofChain,
        ih _ _ (by rw [List.length_dropLast]; omega), List.dropLast_eq_take, List.take_take, Nat.min_eq_left hlt]
    · rw [if_neg hlt, List.take_of_length_le (by omega)]

theorem reorgQ_false (c branch : List Nat) (h : Nat) (q : Option Nat) :
    reorgQ false (ofChain c) h branch q = write (ofChain (c.take (h + 1))) (h + 1) branch :=
  congrArg (write · (h + 1) branch) (rollBackQ_ofChain h q c.length 0 c (Nat.le_add_left _ _))

theorem write_file (s : Store) (first : Nat) (ids : List Nat) : (write s first ids).file = s.file ++ ids := by
  rw [write]; split
  · next h => rw [h, List.append_nil]
  · rfl

theorem consistent_write_ofChain (c ids : List Nat) (hc : 0 < c.length) :
    consistent (write (ofChain c) c.length ids) = true := by
  rw [write]; split
  · simp only [consistent, ofChain, Nat.sub_add_cancel hc, beq_self_eq_true, Bool.not_false, Bool.and_self]
  · have := List.length_pos_iff.mpr ‹_›
    simp only [consistent, ofChain, bne_self_eq_false, Bool.or_self, Bool.not_false, Bool.true_and,
      List.length_append, beq_iff_eq]
    omega

end Neutrino.StopReorg
