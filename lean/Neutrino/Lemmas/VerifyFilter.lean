/-
`VerifyBasicBlockFilter` (Model/VerifyFilter.lean) in closed form: what its
three loops compute, stated on the script lists the specification speaks of.
-/
import Neutrino.Model.VerifyFilter
namespace Neutrino.VerifyFilter

/-! the script lists of `ordScripts`, `opretScripts`, `inScripts` for one transaction -/
def outOrd (os : List Out) : List Nat := (os.filter (·.kind == .ord)).map (·.script)
def outOpret (os : List Out) : List Nat := (os.filter (·.kind == .opret)).map (·.script)
def inComputed (is : List In) : List Nat := (is.filter (·.kind == .computed)).map (·.script)

theorem outs_cons_empty {o : Out} {os : List Out} (h : o.kind = .empty) :
    outOrd (o :: os) = outOrd os ∧ outOpret (o :: os) = outOpret os := by
  unfold outOrd outOpret
  rw [List.filter_cons, List.filter_cons, h]
  exact ⟨rfl, rfl⟩

theorem outs_cons_opret {o : Out} {os : List Out} (h : o.kind = .opret) :
    outOrd (o :: os) = outOrd os ∧ outOpret (o :: os) = o.script :: outOpret os := by
  unfold outOrd outOpret
  rw [List.filter_cons, List.filter_cons, h]
  exact ⟨rfl, rfl⟩

theorem outs_cons_ord {o : Out} {os : List Out} (h : o.kind = .ord) :
    outOrd (o :: os) = o.script :: outOrd os ∧ outOpret (o :: os) = outOpret os := by
  unfold outOrd outOpret
  rw [List.filter_cons, List.filter_cons, h]
  exact ⟨rfl, rfl⟩

theorem inComputed_cons (i : In) (is : List In) :
    inComputed (i :: is) = if i.kind = .computed then i.script :: inComputed is else inComputed is := by
  unfold inComputed
  rw [List.filter_cons]
  cases i.kind <;> rfl

theorem ordScripts_cons (t : Tx) (ts : List Tx) : ordScripts (t :: ts) = outOrd t.outs ++ ordScripts ts :=
  List.flatMap_cons

theorem opretScripts_cons (t : Tx) (ts : List Tx) : opretScripts (t :: ts) = outOpret t.outs ++ opretScripts ts :=
  List.flatMap_cons

theorem inScripts_cons (t : Tx) (ts : List Tx) : inScripts (t :: ts) = inComputed t.ins ++ inScripts ts :=
  List.flatMap_cons

def nMatch (mem : Nat → Option Bool) (ss : List Nat) : Nat := (ss.filter (fun s => mem s == some true)).length

theorem nMatch_append (mem : Nat → Option Bool) (a b : List Nat) :
    nMatch mem (a ++ b) = nMatch mem a + nMatch mem b := by
  unfold nMatch
  rw [List.filter_append, List.length_append]

theorem verifyOuts_eq (mem : Nat → Option Bool) (os : List Out) (acc : Nat) :
    verifyOuts mem os acc =
      if (outOrd os).all (fun s => mem s == some true) && (outOpret os).all (fun s => (mem s).isSome)
      then some (acc + nMatch mem (outOpret os)) else none := by
  fun_induction verifyOuts mem os acc with
  | case1 acc => rfl
  -- empty script
  | case2 o os acc hk ih =>
    obtain ⟨e1, e2⟩ := outs_cons_empty hk
    rw [ih, e1, e2]
  -- OP_RETURN, `Match` error
  | case3 o os acc hk hm =>
    obtain ⟨e1, e2⟩ := outs_cons_opret hk
    rw [e1, e2, List.all_cons, hm, Option.isSome_none, Bool.false_and, Bool.and_false]; rfl
  -- OP_RETURN, matched
  | case4 o os acc hk hm ih =>
    obtain ⟨e1, e2⟩ := outs_cons_opret hk
    rw [ih, e1, e2, List.all_cons, nMatch, nMatch, List.filter_cons, hm, Nat.add_right_comm]; rfl
  -- OP_RETURN, not matched
  | case5 o os acc hk hm ih =>
    obtain ⟨e1, e2⟩ := outs_cons_opret hk
    rw [ih, e1, e2, List.all_cons, nMatch, nMatch, List.filter_cons, hm]; rfl
  -- ordinary, `Match` error
  | case6 o os acc hk hm =>
    obtain ⟨e1, e2⟩ := outs_cons_ord hk
    rw [e1, List.all_cons, hm]; rfl
  -- ordinary, not matched
  | case7 o os acc hk hm =>
    obtain ⟨e1, e2⟩ := outs_cons_ord hk
    rw [e1, List.all_cons, hm]; rfl
  -- ordinary, matched
  | case8 o os acc hk hm ih =>
    obtain ⟨e1, e2⟩ := outs_cons_ord hk
    rw [ih, e1, e2, List.all_cons, hm]; rfl

theorem verifyIns_eq (mem : Nat → Option Bool) (is : List In) :
    verifyIns mem is = (inComputed is).all (fun s => (mem s).isSome) := by
  fun_induction verifyIns mem is with
  | case1 => rfl
  | case2 i is hk hm => rw [inComputed_cons, if_pos hk, List.all_cons, hm]; rfl
  | case3 i is hk b hm ih => rw [ih, inComputed_cons, if_pos hk, List.all_cons, hm]; rfl
  | case4 i is hk ih => rw [ih, inComputed_cons, if_neg hk]

theorem verifyTxs_eq (mem : Nat → Option Bool) (ts : List Tx) (acc : Nat) :
    verifyTxs mem ts acc =
      if (ordScripts ts).all (fun s => mem s == some true) &&
         (opretScripts ts ++ inScripts ts).all (fun s => (mem s).isSome)
      then some (acc + nMatch mem (opretScripts ts)) else none := by
  induction ts generalizing acc with
  | nil => rfl
  | cons t ts ih =>
    -- the tests of `t`, in the order the loops make them, then those of `ts`
    have hb : ∀ a b c A B C : Bool, ((a && A) && ((b && B) && (c && C))) = ((a && b) && c && (A && (B && C))) := by
      decide
    unfold verifyTxs
    rw [verifyOuts_eq, verifyIns_eq, ordScripts_cons, opretScripts_cons, inScripts_cons, nMatch_append,
      List.all_append, List.all_append, List.all_append, List.all_append, hb]
    cases ((outOrd t.outs).all (fun s => mem s == some true) && (outOpret t.outs).all (fun s => (mem s).isSome)) with
    | false => rfl
    | true =>
      cases (inComputed t.ins).all (fun s => (mem s).isSome) with
      | false => rfl
      | true =>
        show verifyTxs mem ts (acc + nMatch mem (outOpret t.outs)) = _
        rw [ih, List.all_append, Nat.add_assoc]
        rfl

/-- `VerifyBasicBlockFilter` in closed form: a filter is accepted iff it matches every
ordinary output script of the non-coinbase transactions and decodes on every
OP_RETURN and reconstructed input script; the count is that of the matched OP_RETURN scripts -/
theorem verify_eq (mem : Nat → Option Bool) (txs : List Tx) :
    verify mem txs =
      if (ordScripts txs.tail).all (fun s => mem s == some true) &&
         (opretScripts txs.tail ++ inScripts txs.tail).all (fun s => (mem s).isSome)
      then some (opretMatches mem txs) else none := by
  unfold verify opretMatches
  rw [verifyTxs_eq, Nat.zero_add]
  rfl

/-- acceptance, without any assumption on `Match` errors -/
theorem verify_isSome_iff (mem : Nat → Option Bool) (txs : List Tx) :
    (verify mem txs).isSome = true ↔
      (∀ s ∈ ordScripts txs.tail, mem s = some true) ∧
      (opretScripts txs.tail ++ inScripts txs.tail).all (fun s => (mem s).isSome) = true := by
  rw [verify_eq]
  split
  · rename_i h
    rw [Bool.and_eq_true, List.all_eq_true] at h
    exact ⟨fun _ => ⟨fun s hs => beq_iff_eq.mp (h.1 s hs), h.2⟩, fun _ => rfl⟩
  · rename_i h
    exact ⟨nofun, fun ⟨h1, h2⟩ => absurd (Bool.and_eq_true_iff.mpr
      ⟨List.all_eq_true.mpr fun s hs => beq_iff_eq.mpr (h1 s hs), h2⟩) h⟩

theorem errorFree_iff (mem : Nat → Option Bool) (txs : List Tx) :
    errorFree mem txs = true ↔
      (∀ s ∈ ordScripts txs.tail, (mem s).isSome = true) ∧
      (opretScripts txs.tail ++ inScripts txs.tail).all (fun s => (mem s).isSome) = true := by
  unfold errorFree
  rw [List.append_assoc, List.all_append, Bool.and_eq_true, List.all_eq_true]

theorem scripts_map_noIns (ts : List Tx) :
    ordScripts (ts.map (fun t => { t with ins := [] })) = ordScripts ts ∧
    opretScripts (ts.map (fun t => { t with ins := [] })) = opretScripts ts ∧
    inScripts (ts.map (fun t => { t with ins := [] })) = [] := by
  unfold ordScripts opretScripts inScripts
  rw [List.flatMap_map, List.flatMap_map, List.flatMap_map]
  exact ⟨rfl, rfl, List.flatMap_eq_nil_iff.mpr fun _ _ => rfl⟩

end Neutrino.VerifyFilter
