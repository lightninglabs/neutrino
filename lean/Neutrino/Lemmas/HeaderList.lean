/-
`Node.Ancestor` on the slot-indexed ring: under the ring invariant `RInv` (live nodes sit in
the cyclic range behind the tail with consecutive heights, `prev` links them, every skip
pointer either names the live node at `getAncestorHeight` or a slot that has since been
REUSED by a newer - higher - node) the walk returns exactly the live node of the asked height,
and nothing when the height is outside the live window: never a stale slot.
-/
import Neutrino.Model.HeaderList
namespace Neutrino.HL

/-- the slot `k` steps behind the tail `t` in a ring of `cap` slots (no `%`) -/
def slotAt (cap t k : Nat) : Nat := if k ≤ t then t - k else t + cap - k

/-- ring invariant; `t` = tail slot, `top` = height of the back node -/
structure RInv (r : Ring) (t top : Nat) : Prop where
  tail : r.tail = some t
  tcap : t < r.cap
  lenpos : 0 < r.len
  lencap : r.len ≤ r.cap
  lentop : r.len ≤ top + 1
  head : r.head = some (slotAt r.cap t (r.len - 1))
  notfull : r.len < r.cap → t + 1 = r.len
  hts : ∀ k, k < r.len → (r.slots (slotAt r.cap t k)).height = top - k
  prevs : ∀ k, k < r.len →
    (r.slots (slotAt r.cap t k)).prev = if k + 1 < r.len then some (slotAt r.cap t (k + 1)) else none
  ancs : ∀ k, k < r.len → ∀ a, (r.slots (slotAt r.cap t k)).anc = some a →
    (∃ j, k < j ∧ j < r.len ∧ a = slotAt r.cap t j ∧ top - j = gah (top - k)) ∨
    (r.slots a).height > top - k

theorem next_lt {cap t : Nat} (h : t < cap) : next cap t < cap := by
  unfold next; split
  · exact Nat.zero_lt_of_lt h
  · next hne => exact Nat.lt_of_le_of_ne h hne

theorem slotAt_zero (cap t : Nat) : slotAt cap t 0 = t := if_pos (Nat.zero_le t)

theorem slotAt_cap {cap t : Nat} (ht : t < cap) : slotAt cap t cap = t :=
  (if_neg (Nat.not_le_of_gt ht)).trans (Nat.add_sub_cancel t cap)

theorem slotAt_succ {cap t k : Nat} (ht : t < cap) (hk : k < cap) :
    slotAt cap (next cap t) (k + 1) = slotAt cap t k := by
  unfold slotAt next
  by_cases h1 : t + 1 = cap
  · subst h1
    rw [if_pos rfl, if_neg (Nat.not_succ_le_zero k), if_pos (Nat.le_of_lt_succ hk), Nat.zero_add,
      Nat.add_sub_add_right]
  · simp only [if_neg h1, Nat.add_le_add_iff_right, Nat.add_sub_add_right, Nat.add_right_comm t 1 cap]

/-- counting back from `t` is an involution: slot `s` is `k` behind `t` iff slot `k` is `s` behind `t` -/
theorem slotAt_slotAt {cap t k : Nat} (hk : k < cap) : slotAt cap t (slotAt cap t k) = k := by
  unfold slotAt
  by_cases h : k ≤ t
  · rw [if_pos h, if_pos (Nat.sub_le t k), Nat.sub_sub_self h]
  · rw [if_neg h, if_neg (Nat.not_le_of_gt (Nat.lt_sub_of_add_lt (Nat.add_lt_add_left hk t))),
      Nat.sub_sub_self (Nat.le_trans (Nat.le_of_lt hk) (Nat.le_add_left cap t))]

theorem slotAt_inj {cap t k1 k2 : Nat} (h1 : k1 < cap) (h2 : k2 < cap)
    (h : slotAt cap t k1 = slotAt cap t k2) : k1 = k2 := by
  rw [← slotAt_slotAt h1 (t := t), h, slotAt_slotAt h2]

theorem slotAt_last {cap t k : Nat} (ht : t < cap) (hk : k + 1 = cap) : slotAt cap t k = next cap t := by
  subst hk
  rw [← slotAt_succ ht (Nat.lt_succ_self k), slotAt_cap (next_lt ht)]

theorem slotAt_eq_next_iff {cap t k : Nat} (ht : t < cap) (hk : k < cap) :
    slotAt cap t k = next cap t ↔ k + 1 = cap := by
  refine ⟨fun e => ?_, slotAt_last ht⟩
  cases cap with
  | zero => exact absurd ht (Nat.not_lt_zero t)
  | succ c => exact congrArg (· + 1) (slotAt_inj hk (Nat.lt_succ_self c) (e.trans (slotAt_last ht rfl).symm))

theorem slotAt_ne_next {cap t k : Nat} (ht : t < cap) (hk : k + 1 < cap) : slotAt cap t k ≠ next cap t :=
  fun e => Nat.ne_of_lt hk ((slotAt_eq_next_iff ht (Nat.lt_of_succ_lt hk)).mp e)

theorem ancLoop_none (r : Ring) (f h : Nat) : ancLoop r f none h = none := by
  cases f <;> rfl

section
variable {r : Ring} {t top : Nat}

theorem RInv.cap_pos (inv : RInv r t top) : 0 < r.cap := Nat.zero_lt_of_lt inv.tcap

theorem RInv.le_top (inv : RInv r t top) {k : Nat} (hk : k < r.len) : k ≤ top :=
  Nat.le_of_lt_succ (Nat.lt_of_lt_of_le hk inv.lentop)

/-- One iteration from a live node above height `h` continues from a node further back that is
still at or above `h`, or from nil once past the oldest live node.  A skip pointer into a reused
slot is never followed: the node there now is higher than the one holding the pointer. -/
theorem ancLoop_step (inv : RInv r t top) {k h : Nat} (hk : k < r.len) (hh : h < top - k) (f : Nat) :
    ∃ j, k < j ∧ h + j ≤ top ∧ ancLoop r (f + 1) (some (slotAt r.cap t k)) h =
      ancLoop r f (if j < r.len then some (slotAt r.cap t j) else none) h := by
  rw [ancLoop, inv.hts k hk, if_neg (Nat.ne_of_gt hh)]
  have hprev := inv.prevs k hk
  cases ha : (r.slots (slotAt r.cap t k)).anc with
  | none => exact ⟨k + 1, Nat.lt_succ_self k, Nat.add_lt_of_lt_sub hh, by rw [hprev]⟩
  | some a =>
    dsimp only
    by_cases hg : gah (top - k) ≥ h ∧ (r.slots a).height ≥ h ∧ (r.slots a).height < top - k
    · rw [if_pos hg]
      rcases inv.ancs k hk a ha with ⟨j, hkj, hj, rfl, hgj⟩ | hstale
      · exact ⟨j, hkj, Nat.add_le_of_le_sub (inv.le_top hj) (hgj ▸ hg.1), by rw [if_pos hj]⟩
      · exact absurd hg.2.2 (Nat.lt_asymm hstale)
    · rw [if_neg hg]; exact ⟨k + 1, Nat.lt_succ_self k, Nat.add_lt_of_lt_sub hh, by rw [hprev]⟩

theorem ancLoop_correct (inv : RInv r t top) :
    ∀ (fuel k h : Nat), k < r.len → r.len ≤ k + fuel → h + k ≤ top →
      ancLoop r fuel (some (slotAt r.cap t k)) h =
        if top + 1 - r.len ≤ h then some (slotAt r.cap t (top - h)) else none := by
  intro fuel
  induction fuel with
  | zero => intro k h hk hf _; exact absurd hf (Nat.not_le_of_gt hk)
  | succ f ih =>
    intro k h hk hf hh
    rcases Nat.eq_or_lt_of_le hh with heq | hlt
    · subst heq
      have h1 : h + k + 1 - r.len ≤ h := Nat.sub_le_iff_le_add.mpr (Nat.add_le_add_left hk h)
      rw [ancLoop, inv.hts k hk, if_pos (Nat.add_sub_cancel ..), if_pos h1, Nat.add_sub_cancel_left]
    · obtain ⟨j, hkj, hj, e⟩ := ancLoop_step inv hk (Nat.lt_sub_of_add_lt hlt) f
      rw [e]
      by_cases hjl : j < r.len
      · rw [if_pos hjl]; exact ih j h hjl (Nat.le_trans hf (Nat.add_lt_add_right hkj f)) hj
      · -- past the oldest live node: `h` is below the window
        have h1 : ¬ top + 1 - r.len ≤ h := fun c =>
          hjl (Nat.lt_of_add_lt_add_left (Nat.lt_of_le_of_lt hj (Nat.sub_le_iff_le_add.mp c)))
        rw [if_neg hjl, ancLoop_none, if_neg h1]

end

/-- **`ancestor_correct`**: from the live node `k` steps behind the back, `Ancestor(h)` returns
the live node of height `h` when `h` is at or below that node and inside the live window (the
last `len` nodes pushed since the last reset), and `nil` otherwise. -/
theorem ancestor_correct (r : Ring) (t top : Nat) (inv : RInv r t top) (k h : Nat) (hk : k < r.len) :
    ancestor r (some (slotAt r.cap t k)) h =
      if h ≤ top - k ∧ top + 1 - r.len ≤ h then some (slotAt r.cap t (top - h)) else none := by
  rw [ancestor, inv.hts k hk]
  by_cases hh : h ≤ top - k
  · have hf : r.len ≤ k + (r.cap + 1) :=
      Nat.le_trans inv.lencap (Nat.le_trans (Nat.le_succ _) (Nat.le_add_left _ k))
    rw [if_neg (Nat.not_lt.mpr hh), ancLoop_correct inv _ k h hk hf (Nat.add_le_of_le_sub (inv.le_top hk) hh)]
    simp only [hh, true_and]
  · rw [if_pos (Nat.lt_of_not_le hh), if_neg (fun c => hh c.1)]

/-- never a stale slot: what is returned is a live slot and holds a node of the asked height -/
theorem ancestor_live (r : Ring) (t top : Nat) (inv : RInv r t top) (k h : Nat) (hk : k < r.len) (i : Nat)
    (hres : ancestor r (some (slotAt r.cap t k)) h = some i) :
    ∃ j, j < r.len ∧ k ≤ j ∧ i = slotAt r.cap t j ∧ (r.slots i).height = h := by
  rw [ancestor_correct r t top inv k h hk] at hres
  by_cases hc : h ≤ top - k ∧ top + 1 - r.len ≤ h
  · rw [if_pos hc] at hres
    cases hres
    have hht : h ≤ top := Nat.le_trans hc.1 (Nat.sub_le top k)
    have hj : top - h < r.len := Nat.sub_lt_left_of_lt_add hht (Nat.sub_le_iff_le_add.mp hc.2)
    refine ⟨top - h, hj, Nat.le_sub_of_add_le' (Nat.add_le_of_le_sub (inv.le_top hk) hc.1), rfl, ?_⟩
    rw [inv.hts _ hj, Nat.sub_sub_self hht]
  · rw [if_neg hc] at hres; cases hres

theorem reset_fields (r : Ring) (height id : Nat) :
    (reset r height id).cap = r.cap ∧ (reset r height id).len = min 1 r.cap ∧
    (reset r height id).tail = some 0 ∧ (reset r height id).head = some 0 ∧
    (reset r height id).slots 0 = { height := height, id := id, prev := none, anc := none } := by
  simp [reset, push, pushRaw, build, upd]

theorem reset_inv (r : Ring) (hc : 0 < r.cap) (height id : Nat) : RInv (reset r height id) 0 height := by
  obtain ⟨hcap, hl, ht, hh, hs⟩ := reset_fields r height id
  have hl : (reset r height id).len = 1 := hl.trans (Nat.min_eq_left hc)
  have h0 : ∀ {k}, k < (reset r height id).len → k = 0 := fun hk => Nat.lt_one_iff.mp (hl ▸ hk)
  refine ⟨ht, hcap ▸ hc, by rw [hl]; exact Nat.one_pos, by rw [hl, hcap]; exact hc,
    by rw [hl]; exact Nat.succ_le_succ (Nat.zero_le _), by rw [hh, hl]; rfl, fun _ => by rw [hl], ?_, ?_, ?_⟩
  · intro k hk; obtain rfl := h0 hk; rw [slotAt_zero, hs]; rfl
  · intro k hk; obtain rfl := h0 hk; rw [slotAt_zero, hs, hl]; rfl
  · intro k hk a ha; obtain rfl := h0 hk; rw [slotAt_zero, hs] at ha; cases ha

/-! Non-vacuity: a ring of 3 slots whose tail has wrapped; slots 0 and 1 were reused. -/
def exRing : Ring := run { cap := 3 } [.reset 5 1, .push 6 2, .push 7 3, .push 8 4, .push 9 5]

example : (exRing.tail, exRing.head, exRing.len) = (some 1, some 2, 3) := by decide
example : ancestor exRing exRing.tail 8 = some 0 := by decide          -- live: slot 0 holds height 8
example : ancestor exRing exRing.tail 6 = none := by decide            -- aged out, its slot was reused
example : (exRing.slots 0).id = 4 ∧ (exRing.slots 1).id = 5 ∧ (exRing.slots 2).id = 3 := by decide

end Neutrino.HL
