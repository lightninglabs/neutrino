/-
Which header the context handed to btcd denotes (`lightHeaderCtx.RelativeAncestorCtx`):
"ancestor at height `a`" is resolved through the in-memory list given to `checkHeaderSanity`
(`headerList` in the connect arm, `reorgList` in the reorg arm; by `C01_headerlist_refines` its
`Back().Ancestor(a)` is the live node of height `a` or nil) and, failing that, through the
store BY HEIGHT.  List-level model and the proof that it denotes the candidate's own ancestors.
-/
import Neutrino.Lemmas.BlockMgrInv
namespace Neutrino.BM

/-- `RelativeAncestorCtx`: the id of the header at height `a` as the context resolves it -/
def resolve (hl : List Node) (store : List Nat) (a : Nat) : Option Nat :=
  match hl.find? (fun n => n.height == a) with
  | some n => some n.id
  | none => store[a]?

theorem resolve_nil (store : List Nat) (a : Nat) : resolve [] store a = store[a]? := rfl

theorem resolve_cons (n : Node) (hl : List Node) (store : List Nat) (a : Nat) :
    resolve (n :: hl) store a = if n.height = a then some n.id else resolve hl store a := by
  rw [resolve, List.find?_cons]
  by_cases h : n.height = a
  · rw [if_pos h, beq_iff_eq.mpr h]
  · rw [if_neg h, beq_false_of_ne h]; rfl

theorem snoc_induction {α : Type} {P : List α → Prop} (nil : P []) (snoc : ∀ l x, P l → P (l ++ [x])) (l : List α) :
    P l := by
  rw [← List.reverse_reverse l]
  induction l.reverse with
  | nil => exact nil
  | cons x xs ih => rw [List.reverse_cons]; exact snoc _ x ih

/-- **Resolution through a list that is the top `m` of the chain `A`**: inside the window the
list answers with `A`'s own header; below it the store is asked by height. -/
theorem resolve_top (A : List Nat) (m : Nat) (store : List Nat) (a : Nat) (ha : a < A.length) :
    resolve ((revNodes A).take m) store a = if A.length ≤ a + m then A[a]? else store[a]? := by
  induction A using snoc_induction generalizing m with
  | nil => cases ha
  | snoc L x ih =>
    rw [List.length_append, List.length_singleton] at ha ⊢
    cases m with
    | zero => rw [List.take_zero, resolve_nil, if_neg (show ¬ L.length + 1 ≤ a + 0 from Nat.not_le.mpr ha)]
    | succ m =>
      rw [revNodes_snoc, List.take_succ_cons, resolve_cons]
      by_cases he : L.length = a
      · rw [if_pos he, ← he, if_pos (Nat.add_le_add_left (Nat.succ_pos m) _), List.getElem?_concat_length]
      · have hlt : a < L.length := Nat.lt_of_le_of_ne (Nat.le_of_lt_succ ha) (Ne.symm he)
        rw [if_neg he, ih m hlt, List.getElem?_append_left hlt]
        by_cases hc : L.length ≤ a + m
        · rw [if_pos hc, if_pos (show L.length + 1 ≤ a + (m + 1) from Nat.succ_le_succ hc)]
        · rw [if_neg hc, if_neg (show ¬ L.length + 1 ≤ a + (m + 1) from fun h => hc (Nat.le_of_succ_le_succ h))]

theorem revNodes_length (l : List Nat) : (revNodes l).length = l.length := by
  induction l using snoc_induction with
  | nil => rfl
  | snoc l x ih => rw [revNodes_snoc, List.length_cons, ih, List.length_append]; rfl

/-- **Connect arm.**  In every loop state of `handleHeadersMsg` (`LIf` is the loop invariant that
`connect_run` maintains from every reachable state; `L = s.log ++ l.batch` is the candidate's own
chain: stored headers plus the headers of this message already accepted) the context built on
`headerList` NEVER denotes a header that is not the candidate's own ancestor, and it denotes the
own ancestor at EVERY height as long as the in-memory list still reaches down to the stored tip
(`l.batch.length ≤ s.hl.length`: always so when the window is at least the message length). -/
theorem ctx_connect (c : Cfg) (s : State) (l : Loc) (rest : List Nat) (li : LIf c s l rest) (a : Nat)
    (ha : a < (s.log ++ l.batch).length) :
    (∀ x, resolve s.hl s.log a = some x → (s.log ++ l.batch)[a]? = some x) ∧
    (l.batch.length ≤ s.hl.length → resolve s.hl s.log a = (s.log ++ l.batch)[a]?) := by
  obtain ⟨m, hm, hhl⟩ := li.anch
  rw [hhl, resolve_top (s.log ++ l.batch) m s.log a ha]
  by_cases hc : (s.log ++ l.batch).length ≤ a + m
  · rw [if_pos hc]; exact ⟨fun _ h => h, fun _ => rfl⟩
  · rw [if_neg hc]
    refine ⟨fun x hx => ?_, fun hb => ?_⟩
    · have hlt : a < s.log.length := Nat.lt_of_not_le fun h => by rw [List.getElem?_eq_none h] at hx; cases hx
      rw [List.getElem?_append_left hlt]; exact hx
    · rw [List.length_take, revNodes_length] at hb
      rw [List.length_append] at hc
      exact (List.getElem?_append_left (Nat.lt_of_add_lt_add_right
        (Nat.lt_of_lt_of_le (Nat.lt_of_not_le hc) (Nat.add_le_add_left (Nat.le_trans hb (Nat.min_le_left ..)) _)))).symm

/-- `reorgList` as the reorg arm builds it: reset to the fork point, then one push per branch header validated so far -/
def reorgAux (win : Nat) : List Node → Nat → List Nat → List Node
  | hl, _, [] => hl
  | hl, h, x :: xs => reorgAux win (hlPush win hl ⟨x, h⟩) (h + 1) xs

def reorgList (win backHead bh : Nat) (pre : List Nat) : List Node :=
  reorgAux win (hlReset ⟨backHead, bh⟩) (bh + 1) pre

theorem min_succ_min (m win : Nat) : min (min m win + 1) win = min (m + 1) win := by
  rcases Nat.le_total m win with h | h
  · rw [Nat.min_eq_left h]
  · rw [Nat.min_eq_right h, Nat.min_eq_right (Nat.le_succ win), Nat.min_eq_right (Nat.le_succ_of_le h)]

theorem reorgAux_top (win : Nat) : ∀ (pre L : List Nat) (m : Nat),
    reorgAux win ((revNodes L).take (min m win)) L.length pre = (revNodes (L ++ pre)).take (min (m + pre.length) win) := by
  intro pre
  induction pre with
  | nil => intro L m; rw [reorgAux, List.append_nil]; rfl
  | cons x xs ih =>
    intro L m
    have := ih (L ++ [x]) (m + 1)
    rw [List.length_append, List.length_singleton, List.append_assoc, List.singleton_append, Nat.add_assoc,
      Nat.add_comm 1] at this
    rw [reorgAux, hlPush_top, min_succ_min, this]; rfl

/-- **Reorg arm.**  The candidate is the branch header that follows `pre` (the branch headers
already validated, the first one being the child of the stored header at `bh`); its own chain is
the stored prefix up to the fork point followed by `pre`.  The context built on `reorgList`
denotes exactly that chain at every height - the store, which still holds the OTHER branch above
the fork point, is only asked at or below the fork point - provided the branch validated so far
fits the window (`pre.length < win`; a message has at most 2 000 headers, the window is 10 000). -/
theorem ctx_reorg (win : Nat) (log : List Nat) (bh backHead : Nat) (pre : List Nat) (hbh : log[bh]? = some backHead)
    (hw : pre.length < win) (a : Nat) (ha : a < (log.take (bh + 1) ++ pre).length) :
    resolve (reorgList win backHead bh pre) log a = (log.take (bh + 1) ++ pre)[a]? := by
  have hlt : bh < log.length := Nat.lt_of_not_le fun h => by rw [List.getElem?_eq_none h] at hbh; cases hbh
  have hlen : (log.take (bh + 1)).length = bh + 1 := List.length_take.trans (Nat.min_eq_left hlt)
  have hw1 : min 1 win = 1 := Nat.min_eq_left (Nat.lt_of_le_of_lt (Nat.zero_le _) hw)
  have hreset : hlReset ⟨backHead, bh⟩ = (revNodes (log.take (bh + 1))).take (min 1 win) := by
    rw [hw1, ← anchor_eq_take (fun e => by rw [e] at hlen; cases hlen), anchor, tipId_take hbh, tipHeight, hlen]; rfl
  have hRL : reorgList win backHead bh pre = (revNodes (log.take (bh + 1) ++ pre)).take (pre.length + 1) := by
    have := reorgAux_top win pre (log.take (bh + 1)) 1
    rw [hlen, Nat.add_comm 1, Nat.min_eq_left hw] at this
    rw [reorgList, hreset, this]
  rw [hRL, resolve_top _ (pre.length + 1) log a ha]
  split
  · rfl
  · next hc =>
    -- below the window: at or below the fork point, where the store still holds the own branch
    rw [List.length_append, hlen, Nat.add_assoc, Nat.add_comm 1] at hc
    have : a < bh + 1 := Nat.lt_succ_of_lt (Nat.lt_of_add_lt_add_right (Nat.lt_of_not_le hc))
    rw [List.getElem?_append_left (hlen.symm ▸ this), List.getElem?_take, if_pos this]

/-- with a window smaller than the branch the reorg arm WOULD hand btcd a header of the other
branch: stored `[0,1,2]`, branch `3,4` off genesis, window 1 - height 1 resolves to stored header 1,
the candidate's own ancestor there is 3.  (Not reachable with the real constants.) -/
theorem ctx_reorg_small_window_counterexample :
    resolve (reorgList 1 0 0 [3, 4]) [0, 1, 2] 1 = some 1 ∧ ([0, 1, 2].take 1 ++ [3, 4])[1]? = some 3 := by decide

end Neutrino.BM
