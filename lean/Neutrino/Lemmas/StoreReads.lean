import Neutrino.Model.StoreReads
import Neutrino.Lemmas.StoreRep
namespace Neutrino.Store

theorem step_down (dec height : Nat) (hdec : 1 ≤ dec) (hpos : 0 < height) :
    (if dec > height then 0 else height - dec) < height := by
  split
  · exact hpos
  · exact Nat.sub_lt hpos hdec

/-- The locator's loop, started on the heights collected so far (newest first in `acc`, strictly increasing
towards the tip, `height` the last one, `count` of them, fuel left for every height below): the result goes
strictly down, starts where `acc` started, and reaches genesis unless it is cut at the 500 entries. -/
theorem locatorHeights_go_spec (fuel : Nat) :
    ∀ (height dec count : Nat) (acc : List Nat), 1 ≤ dec → height < fuel → acc.head? = some height →
      count = acc.length → List.Pairwise (· < ·) acc →
      List.Pairwise (· > ·) (locatorHeights.go fuel height dec count acc) ∧
      (locatorHeights.go fuel height dec count acc).head? = acc.getLast? ∧
      ((locatorHeights.go fuel height dec count acc).getLast? = some 0 ∨
        500 ≤ (locatorHeights.go fuel height dec count acc).length) := by
  induction fuel with
  | zero => intro height _ _ _ _ h; exact absurd h (Nat.not_lt_zero _)
  | succ fuel ih =>
    intro height dec count acc hdec hf hhead hcount hp
    rw [locatorHeights.go]
    by_cases hstop : height = 0 ∨ count ≥ 500
    · rw [if_pos hstop]
      refine ⟨List.pairwise_reverse.mpr hp, List.head?_reverse, ?_⟩
      rcases hstop with h0 | hc
      · exact Or.inl (by rw [List.getLast?_reverse, hhead, h0])
      · exact Or.inr (by rw [List.length_reverse, ← hcount]; exact hc)
    · rw [if_neg hstop]
      have hdec' : 1 ≤ (if count > 10 then dec * 2 else dec) := by
        split
        · exact Nat.le_trans hdec (Nat.le_mul_of_pos_right _ Nat.zero_lt_two)
        · exact hdec
      -- the next height is strictly below the current one, which heads `acc`
      have hlt := step_down _ height hdec' (Nat.pos_of_ne_zero fun h => hstop (Or.inl h))
      cases acc with
      | nil => cases hhead
      | cons x xs =>
        cases hhead
        have := ih _ _ (count + 1) (_ :: height :: xs) hdec' (Nat.lt_of_lt_of_le hlt (Nat.le_of_lt_succ hf)) rfl
          (congrArg (· + 1) hcount)
          (List.pairwise_cons.mpr ⟨fun a ha => by
            rcases List.mem_cons.mp ha with rfl | ha'
            · exact hlt
            · exact Nat.lt_trans hlt ((List.pairwise_cons.mp hp).1 a ha'), hp⟩)
        rwa [List.getLast?_cons_cons] at this

theorem locatorHeights_spec (tipH : Nat) :
    List.Pairwise (· > ·) (locatorHeights tipH) ∧ (locatorHeights tipH).head? = some tipH ∧
      ((locatorHeights tipH).getLast? = some 0 ∨ 500 ≤ (locatorHeights tipH).length) :=
  locatorHeights_go_spec _ _ _ _ _ (Nat.le_refl 1) (Nat.lt_succ_self _) rfl rfl (List.pairwise_singleton _ _)

theorem locatorHeights_desc (tipH : Nat) : List.Pairwise (· > ·) (locatorHeights tipH) :=
  (locatorHeights_spec tipH).1

theorem locatorHeights_head (tipH : Nat) : (locatorHeights tipH).head? = some tipH :=
  (locatorHeights_spec tipH).2.1

theorem locatorHeights_last (tipH : Nat) :
    (locatorHeights tipH).getLast? = some 0 ∨ 500 ≤ (locatorHeights tipH).length :=
  (locatorHeights_spec tipH).2.2

theorem locatorHeights_le (tipH : Nat) : ∀ h ∈ locatorHeights tipH, h ≤ tipH := by
  intro h hm
  have hd := locatorHeights_desc tipH
  have hh := locatorHeights_head tipH
  cases hl : locatorHeights tipH with
  | nil => rw [hl] at hm; cases hm
  | cons x xs =>
    rw [hl] at hm hd hh
    cases hh
    rcases List.mem_cons.mp hm with rfl | hm'
    · exact Nat.le_refl _
    · exact Nat.le_of_lt ((List.pairwise_cons.mp hd).1 h hm')

theorem mapM_get_of_le {l : List Nat} (hs : List Nat) (h : ∀ x ∈ hs, x < l.length) :
    hs.mapM (fun i => l[i]?) = some (hs.filterMap (fun i => l[i]?)) := by
  induction hs with
  | nil => rfl
  | cons x xs ih =>
    have hx : x < l.length := h x (by simp)
    have ih' := ih (fun y hy => h y (by simp [hy]))
    simp only [List.mapM_cons, List.getElem?_eq_getElem hx, List.filterMap_cons, ih']
    rfl

end Neutrino.Store
