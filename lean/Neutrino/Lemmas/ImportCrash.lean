/-
C08 for sequences of store operations, and for the header import's write phase
in particular (`importOps`, Spec/ImportCrash.lean).
-/
import Neutrino.Spec.ImportCrash
import Neutrino.Props.C08
namespace Neutrino.Store

/-- every operation of the sequence is issued under its callers' contract, in
the log the preceding ones have produced -/
def ContractSeq (l : Log) : List Op → Prop
  | [] => True
  | op :: ops => Contract l op ∧ op ≠ .reopen ∧ ContractSeq (l.apply op) ops

theorem applySeq_append (l : Log) (a b : List Op) : applySeq l (a ++ b) = applySeq (applySeq l a) b := by
  induction a generalizing l with
  | nil => rfl
  | cons x xs ih => simp only [List.cons_append, applySeq]; exact ih _

theorem applySeq_take_succ (l : Log) (ops : List Op) (i : Nat) (op : Op) (h : ops[i]? = some op) :
    applySeq l (ops.take (i + 1)) = (applySeq l (ops.take i)).apply op := by
  have : ops.take (i + 1) = ops.take i ++ [op] := by
    rw [List.take_add_one, h]; rfl
  rw [this, applySeq_append]; rfl

/-- an undisturbed prefix of the sequence keeps the stores consistent, and the
operation after it is issued under contract -/
theorem runSeq_prefix (ops : List Op) (i : Nat) (op : Op) (d : Durable) (l : Log) (hr : Rep d l)
    (hc : ContractSeq l ops) (hop : ops[i]? = some op) :
    Rep (runSeq d (ops.take i)) (applySeq l (ops.take i)) ∧ Contract (applySeq l (ops.take i)) op ∧ op ≠ .reopen := by
  induction i generalizing ops d l with
  | zero =>
    cases ops with
    | nil => cases hop
    | cons x xs => cases hop; exact ⟨hr, hc.1, hc.2.1⟩
  | succ i ih =>
    cases ops with
    | nil => cases hop
    | cons x xs => exact ih xs _ _ (C08_resume d l x hr hc.1 hc.2.1).2 hc.2.2 hop

/-- **A crash inside the `i`-th operation of any sequence of store operations.**
The operations before it ran undisturbed; the process dies at durable step `k`
of operation `i` (inside a file append: after `torn` bytes).  Then the restart
succeeds and the stores represent exactly the log after the first `i`
operations, or after the first `i+1` (for the multi-step rollback: a log it
passes through) — consistent, filter headers not ahead of block headers. -/
theorem ops_recover (d : Durable) (l : Log) (ops : List Op) (i k torn : Nat) (op : Op)
    (hrep : Rep d l) (hc : ContractSeq l ops) (hop : ops[i]? = some op) :
    let r := exec (runSeq d (ops.take i)) op (.crash k torn)
    (r.2 = .crashed →
        ∃ d' lx, reopen r.1 = some d' ∧ Rep d' lx ∧ lx.filters.length ≤ lx.blocks.length ∧
          (match op with
           | .rollto _ => Between (applySeq l (ops.take i)) (applySeq l (ops.take (i + 1))) lx
           | _ => lx = applySeq l (ops.take i) ∨ lx = applySeq l (ops.take (i + 1)))) ∧
    (r.2 ≠ .crashed → Rep r.1 (applySeq l (ops.take (i + 1)))) := by
  intro r
  obtain ⟨hrp, hc1, hne⟩ := runSeq_prefix ops i op d l hrep hc hop
  have h := C08_recover (runSeq d (ops.take i)) (applySeq l (ops.take i)) op k torn hrp hc1 hne
  rw [applySeq_take_succ l ops i op hop]
  refine ⟨fun hcr => ?_, fun hn => (h.2 hn).2⟩
  obtain ⟨d', lx, h1, h2, h3⟩ := h.1 hcr
  refine ⟨d', lx, h1, h2, h2.fle, ?_⟩
  cases op <;> exact h3

theorem importOps_nil (bs fuel : Nat) (nf : List Nat) : importOps bs fuel [] nf = [] := by cases fuel <;> rfl

theorem importOps_cons (bs fuel x : Nat) (xs nf : List Nat) :
    importOps bs (fuel + 1) (x :: xs) nf =
      .wb ((x :: xs).take bs) :: .wf (nf.take bs) :: importOps bs fuel ((x :: xs).drop bs) (nf.drop bs) := rfl

theorem importOps_wbwf (bs fuel : Nat) : ∀ (nb nf : List Nat) (op : Op), op ∈ importOps bs fuel nb nf →
    (∃ ids, op = .wb ids) ∨ (∃ ids, op = .wf ids) := by
  induction fuel with
  | zero => intro nb nf op h; cases h
  | succ fuel ih =>
    intro nb nf op h
    cases nb with
    | nil => rw [importOps_nil] at h; cases h
    | cons x xs =>
      rw [importOps_cons, List.mem_cons, List.mem_cons] at h
      rcases h with h | h | h
      · exact Or.inl ⟨_, h⟩
      · exact Or.inr ⟨_, h⟩
      · exact ih _ _ op h

/-- the importer honours the stores' contract: the new block ids are distinct
and new, at most as many filter headers as block headers are written per batch,
block batch first -/
theorem importOps_contract (bs fuel : Nat) : ∀ (l : Log) (nb nf : List Nat),
    nb.Nodup → (∀ x ∈ nb, x ∉ l.blocks) → nf.length ≤ nb.length → l.filters.length ≤ l.blocks.length →
    ContractSeq l (importOps bs fuel nb nf) := by
  induction fuel with
  | zero => intro _ _ _ _ _ _ _; trivial
  | succ fuel ih =>
    intro l nb nf hnd hfresh hlen hfle
    cases nb with
    | nil => rw [importOps_nil]; trivial
    | cons x xs =>
      rw [importOps_cons]
      have hparts := List.nodup_append.mp ((List.take_append_drop bs (x :: xs)).symm ▸ hnd)
      have hlen' : l.filters.length + (nf.take bs).length ≤ (l.blocks ++ (x :: xs).take bs).length := by
        rw [List.length_append, List.length_take, List.length_take]
        exact Nat.add_le_add hfle (Nat.le_min.mpr ⟨Nat.min_le_left _ _, Nat.le_trans (Nat.min_le_right _ _) hlen⟩)
      refine ⟨⟨hparts.1, fun y hy => hfresh y (List.mem_of_mem_take hy)⟩, Op.noConfusion, hlen', Op.noConfusion, ?_⟩
      apply ih _ _ _ hparts.2.1
      · intro y hy hy'
        rcases List.mem_append.mp hy' with h | h
        · exact hfresh y (List.mem_of_mem_drop hy) h
        · exact hparts.2.2 y h y hy rfl
      · rw [List.length_drop, List.length_drop]; exact Nat.sub_le_sub_right hlen bs
      · show (l.filters ++ nf.take bs).length ≤ _
        rw [List.length_append]; exact hlen'

theorem take_mul_succ {α} (xs : List α) (bs m : Nat) :
    xs.take (bs * (m + 1)) = xs.take bs ++ (xs.drop bs).take (bs * m) := by
  rw [Nat.mul_add, Nat.mul_one, Nat.add_comm, List.take_add]

/-- the log after the first `j` store calls of the import: whole batches of the
new headers — `⌈j/2⌉` block batches and `⌊j/2⌋` filter batches -/
theorem applySeq_importOps_take (bs : Nat) (hbs : bs ≥ 1) (fuel : Nat) : ∀ (l : Log) (nb nf : List Nat) (j : Nat),
    fuel ≥ nb.length → nf.length = nb.length →
    applySeq l ((importOps bs fuel nb nf).take j) =
      { blocks := l.blocks ++ nb.take (bs * ((j + 1) / 2)), filters := l.filters ++ nf.take (bs * (j / 2)) } := by
  have nothing : ∀ (l : Log) (a b : Nat),
      l = { blocks := l.blocks ++ ([] : List Nat).take a, filters := l.filters ++ ([] : List Nat).take b } := by
    intro l a b; rw [List.take_nil, List.take_nil, List.append_nil, List.append_nil]
  induction fuel with
  | zero =>
    intro l nb nf j hf hl
    cases List.eq_nil_of_length_eq_zero (Nat.le_zero.mp hf)
    cases List.eq_nil_of_length_eq_zero hl
    rw [importOps_nil, List.take_nil]; exact nothing l _ _
  | succ fuel ih =>
    intro l nb nf j hf hl
    cases nb with
    | nil =>
      cases List.eq_nil_of_length_eq_zero hl
      rw [importOps_nil, List.take_nil]; exact nothing l _ _
    | cons x xs =>
      rw [importOps_cons]
      match j with
      | 0 => simp only [List.take_zero, applySeq, Nat.zero_add, Nat.reduceDiv, Nat.mul_zero, List.append_nil]
      | 1 =>
        simp only [List.take_succ_cons, List.take_zero, applySeq, Log.apply, Nat.reduceAdd, Nat.reduceDiv,
          Nat.mul_one, Nat.mul_zero, List.append_nil]
      | j + 2 =>
        -- two more calls: one more batch of each
        rw [List.take_succ_cons, List.take_succ_cons, applySeq, applySeq,
          ih _ _ _ j
            (by rw [List.length_drop]; exact Nat.le_trans (Nat.sub_le_sub_left hbs _) (Nat.le_of_succ_le_succ hf))
            (by rw [List.length_drop, List.length_drop, hl]),
          show (j + 2 + 1) / 2 = (j + 1) / 2 + 1 from Nat.add_div_right (j + 1) Nat.zero_lt_two,
          show (j + 2) / 2 = j / 2 + 1 from Nat.add_div_right j Nat.zero_lt_two, take_mul_succ, take_mul_succ]
        simp only [Log.apply, List.append_assoc]

theorem min_le_min_add {x y n c : Nat} (e : x ≤ y + c) : min x n ≤ min y n + c := by
  rcases Nat.le_total y n with h | h
  · rw [Nat.min_eq_left h]; exact Nat.le_trans (Nat.min_le_left _ _) e
  · rw [Nat.min_eq_right h]; exact Nat.le_trans (Nat.min_le_right _ _) (Nat.le_add_right _ _)

/-- after `j` calls on `n` new headers the block store is at most one batch ahead of where it was ahead before -/
theorem batch_lag (bs n j B F : Nat) (h : F ≤ B) :
    B + min (bs * ((j + 1) / 2)) n ≤ F + min (bs * (j / 2)) n + bs + (B - F) := by
  have half : (j + 1) / 2 ≤ j / 2 + 1 :=
    Nat.le_trans (Nat.div_le_div_right (Nat.le_succ _)) (Nat.le_of_eq (Nat.add_div_right j Nat.zero_lt_two))
  have e : min (bs * ((j + 1) / 2)) n ≤ min (bs * (j / 2)) n + bs :=
    min_le_min_add (Nat.le_trans (Nat.mul_le_mul_left bs half) (Nat.le_of_eq (Nat.mul_succ _ _)))
  rw [Nat.add_right_comm, Nat.add_right_comm F, Nat.add_sub_cancel' h, Nat.add_assoc]
  exact Nat.add_le_add_left e B

end Neutrino.Store
