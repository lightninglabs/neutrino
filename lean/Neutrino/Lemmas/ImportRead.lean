/-
A failing import source (Model/Import `ReadFault`): whatever the write loop
reads from a file cut at the failing index is what it reads from the whole
file, or a read error — never the end of the data.
-/
import Neutrino.Lemmas.Import
namespace Neutrino.Import

theorem readBatch_take {α : Type} (body : List α) (i s e bs : Nat) :
    readBatch (body.take i) s e bs = readBatch body s e bs ∨ readBatch (body.take i) s e bs = .err := by
  unfold readBatch
  by_cases h1 : s > min e (s + bs - 1)
  · left; rw [if_pos h1, if_pos h1]
  by_cases h2 : min e (s + bs - 1) < (body.take i).length
  · left
    -- the batch lies inside the cut file: it is the same slice of both
    rw [List.length_take] at h2
    have h3 : min e (s + bs - 1) < body.length := Nat.lt_of_lt_of_le h2 (Nat.min_le_right _ _)
    have h4 : min e (s + bs - 1) + 1 - s ≤ i - s := Nat.sub_le_sub_right (Nat.lt_of_lt_of_le h2 (Nat.min_le_left _ _)) s
    rw [if_neg h1, if_neg h1, if_pos h3, List.length_take, if_pos h2, List.drop_take, List.take_take, Nat.min_eq_left h4]
  · right; rw [if_neg h1, if_neg h2]

/-- a read that is skipped in some mode (an empty batch stands for it) and otherwise gives what another read gives, or fails -/
theorem skipped_or_read {α : Type} (c : Prop) [Decidable c] {x' x : RB α} (h : x' = x ∨ x' = .err) :
    (if c then RB.ok [] else x') = (if c then RB.ok [] else x) ∨ (if c then RB.ok [] else x') = .err := by
  split
  · exact Or.inl rfl
  · exact h

/-- one batch over a file whose two bodies read as those of `F` or fail: the batch of `F`, or a read error -/
theorem processBatch_cut (F F' : File) (cfg : Cfg) (srcEnd : Nat) (mode : Mode) (batchStart : Nat) (r : Run)
    (hs : F'.bstart = F.bstart)
    (hb : readBatch F'.blocks batchStart srcEnd cfg.bs = readBatch F.blocks batchStart srcEnd cfg.bs ∨
      readBatch F'.blocks batchStart srcEnd cfg.bs = .err)
    (hf : readBatch F'.filters batchStart srcEnd cfg.bs = readBatch F.filters batchStart srcEnd cfg.bs ∨
      readBatch F'.filters batchStart srcEnd cfg.bs = .err) :
    processBatch F' cfg srcEnd mode batchStart r = processBatch F cfg srcEnd mode batchStart r ∨
    processBatch F' cfg srcEnd mode batchStart r = .err .read r := by
  unfold processBatch
  rw [hs]
  have hX := skipped_or_read (mode = .filterOnly) hb
  have hY := skipped_or_read (mode = .blockOnly) hf
  generalize (if mode = .filterOnly then RB.ok [] else readBatch F'.blocks batchStart srcEnd cfg.bs) = X' at hX ⊢
  generalize (if mode = .blockOnly then RB.ok [] else readBatch F'.filters batchStart srcEnd cfg.bs) = Y' at hY ⊢
  rcases hX with rfl | rfl
  · rcases hY with rfl | rfl
    · exact Or.inl rfl
    · -- the filter file fails: reported unless the block file had already ended the batch
      cases (if mode = .filterOnly then RB.ok [] else readBatch F.blocks batchStart srcEnd cfg.bs) with
      | eof => exact Or.inl rfl
      | err => exact Or.inl rfl
      | ok bl => exact Or.inr rfl
  · exact Or.inr rfl

theorem processBatch_under (F : File) (cfg : Cfg) (rf : Option ReadFault) (np srcEnd : Nat) (mode : Mode)
    (batchStart : Nat) (r : Run) :
    processBatch (F.under rf np) cfg srcEnd mode batchStart r = processBatch F cfg srcEnd mode batchStart r ∨
    processBatch (F.under rf np) cfg srcEnd mode batchStart r = .err .read r := by
  cases rf with
  | none => left; rfl
  | some f =>
    simp only [File.under]
    split
    · split
      · exact processBatch_cut F _ cfg srcEnd mode batchStart r rfl (readBatch_take F.blocks f.idx _ _ _) (Or.inl rfl)
      · exact processBatch_cut F _ cfg srcEnd mode batchStart r rfl (Or.inl rfl) (readBatch_take F.filters f.idx _ _ _)
    · left; rfl

theorem appendLoopRF_succ (F : File) (cfg : Cfg) (rf : Option ReadFault) (srcEnd : Nat) (mode : Mode)
    (fuel batchStart : Nat) (r : Run) :
    appendLoopRF F cfg rf srcEnd mode (fuel + 1) batchStart r =
      if cancelled cfg r.np then (some .cancel, r)
      else
        match processBatch (F.under rf (r.np + 1)) cfg srcEnd mode batchStart { r with np := r.np + 1 } with
        | .eof => (none, { r with np := r.np + 1 })
        | .err e r' => (some e, r')
        | .next batchEnd r' => appendLoopRF F cfg rf srcEnd mode fuel (batchEnd + 1) r' := rfl

theorem appendLoopRF_none (F : File) (cfg : Cfg) (srcEnd : Nat) (mode : Mode) :
    ∀ fuel batchStart r, appendLoopRF F cfg none srcEnd mode fuel batchStart r = appendLoop F cfg srcEnd mode fuel batchStart r := by
  intro fuel
  induction fuel with
  | zero => intro b r; rfl
  | succ n ih =>
    intro b r
    rw [appendLoopRF_succ, appendLoop_succ]
    split
    · rfl
    · show (match processBatch F cfg srcEnd mode b { r with np := r.np + 1 } with
        | .eof => _ | .err e r' => _ | .next be r' => appendLoopRF F cfg none srcEnd mode n (be + 1) r') = _
      cases processBatch F cfg srcEnd mode b { r with np := r.np + 1 } with
      | eof => rfl
      | err e r' => rfl
      | next be r' => exact ih _ _

/-- a failing source is reported unless it is never met: the write loop ends
with a read error, or it is the write loop of the whole file -/
theorem appendLoopRF_cases (F : File) (cfg : Cfg) (rf : Option ReadFault) (srcEnd : Nat) (mode : Mode) :
    ∀ fuel batchStart r,
      appendLoopRF F cfg rf srcEnd mode fuel batchStart r = appendLoop F cfg srcEnd mode fuel batchStart r ∨
      (appendLoopRF F cfg rf srcEnd mode fuel batchStart r).1 = some .read := by
  intro fuel
  induction fuel with
  | zero => intro b r; left; rfl
  | succ n ih =>
    intro b r
    rw [appendLoopRF_succ, appendLoop_succ]
    split
    · left; rfl
    · rcases processBatch_under F cfg rf (r.np + 1) srcEnd mode b { r with np := r.np + 1 } with h | h
      · rw [h]
        cases processBatch F cfg srcEnd mode b { r with np := r.np + 1 } with
        | eof => left; rfl
        | err e r' => left; rfl
        | next be r' => exact ih _ _
      · right; rw [h]

theorem processRegionsRF_cases (F : File) (cfg : Cfg) (rf : Option ReadFault) (b f : Nat) (r : Run) :
    processRegionsRF F cfg rf b f r = processRegions F cfg b f r ∨ (processRegionsRF F cfg rf b f r).1 = some .read := by
  have hnew : ∀ s e m r, appendNewRF F cfg rf s e m r = appendNew F cfg s e m r ∨ (appendNewRF F cfg rf s e m r).1 = some .read :=
    fun s e m r => appendLoopRF_cases F cfg rf _ m _ s r
  unfold processRegionsRF processRegions
  generalize regions F b f = dn
  obtain ⟨d, n⟩ := dn
  dsimp only
  have second : ∀ r1, (if n.exists = true then appendNewRF F cfg rf n.start n.stop n.mode r1 else (none, r1)) =
      (if n.exists = true then appendNew F cfg n.start n.stop n.mode r1 else (none, r1)) ∨
      (if n.exists = true then appendNewRF F cfg rf n.start n.stop n.mode r1 else (none, r1)).1 = some .read := by
    intro r1
    split
    · exact hnew _ _ _ r1
    · left; rfl
  cases d.exists with
  | false =>
    simp only [Bool.false_eq_true, ↓reduceIte]
    exact second r
  | true =>
    cases verifyAt F r.st d.verify d.stop with
    | false => left; simp only [Bool.not_false, ↓reduceIte]
    | true =>
      simp only [Bool.not_true, Bool.false_eq_true, ↓reduceIte]
      rcases hnew d.start d.stop d.mode r with h | h
      · rw [h]
        cases (appendNew F cfg d.start d.stop d.mode r).1 with
        | some e => left; dsimp only
        | none => dsimp only; exact second _
      · right; rw [h]

/-- a failing source is reported unless it is never met: the import ends with a read error,
or it is, step for step, the import of the whole file -/
theorem importRunRF_cases (F : File) (cfg : Cfg) (rf : Option ReadFault) (st : Stores) :
    importRunRF F cfg rf st = importRun F cfg st ∨ (importRunRF F cfg rf st).1 = some .read := by
  unfold importRunRF importRun
  cases preChecks F with
  | some e => left; dsimp only
  | none =>
    cases continuity F st with
    | some e => left; dsimp only
    | none =>
      cases validateBlocks (validatedBody F cfg) cfg.bs with
      | false => left; simp only [Bool.not_false, ↓reduceIte]
      | true =>
        cases bChainTip st with
        | none => left; simp only [Bool.not_true, Bool.false_eq_true, ↓reduceIte]
        | some b =>
          cases fChainTip st with
          | none => left; simp only [Bool.not_true, Bool.false_eq_true, ↓reduceIte]
          | some f =>
            simp only [Bool.not_true, Bool.false_eq_true, ↓reduceIte]
            exact processRegionsRF_cases F cfg rf b f _

end Neutrino.Import
