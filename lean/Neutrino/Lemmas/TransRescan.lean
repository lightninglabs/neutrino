/-
The rescan's retry queue as the CODE defines it (`blockRetryQueue.push/peek/pop/clear`, translated from
rescan.go on every run, Gen/TransRescan.lean) is the plain FIFO list the model (`Model/Rescan.lean`:
`queue ++ [b]`, `b :: rest`) uses.
-/
import Neutrino.Gen.TransRescan
namespace Neutrino.Rescan
open Neutrino.Gen.TransRescan Neutrino.GoInt

abbrev QBlock := Option T_blockntfns_Connected

theorem trans_push (b : QBlock) (q : List QBlock) : blockRetryQueue_push b q = q ++ [b] := rfl

theorem trans_clear (q : List QBlock) : blockRetryQueue_clear q = [] := rfl

theorem trans_peek (q : List QBlock) : blockRetryQueue_peek q = q.head?.join := by
  cases q with
  | nil => rfl
  | cons x r => rw [blockRetryQueue_peek, if_neg (by rw [len_eq_zero]; nofun)]; exact idx_natCast (x :: r) 0

theorem trans_pop (q : List QBlock) : blockRetryQueue_pop q = (q.head?.join, q.tail) := by
  cases q with
  | nil => rfl
  | cons x r =>
    have h : ¬ (len (x :: r) = 0) := by rw [len_eq_zero]; nofun
    have h0 : idx (x :: r) 0 = x := idx_natCast (x :: r) 0
    have hs : setIdx (x :: r) 0 (none : QBlock) = none :: r := rfl
    -- the end of the slice may be taken before or after the front was cleared
    have hl : ∀ y : QBlock, slice ((none : QBlock) :: r) 1 (len (y :: r)) = r := by
      intro y; simp [slice, len]
    simp only [blockRetryQueue_pop, h, ↓reduceIte, h0, hs, hl, List.head?_cons, Option.join_some, List.tail_cons]

end Neutrino.Rescan
