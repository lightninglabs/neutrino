/-
`PushBack` preserves the ring invariant; hence `ancestor_correct` holds in every ring built by
`ResetHeaderState` / `PushBack` with consecutive heights.
-/
import Neutrino.Lemmas.HeaderList
namespace Neutrino.HL

section
variable {r : Ring} {t top : Nat}

/-- the head moves exactly when the ring is full: the new tail then lands on the old head -/
theorem moveHead_iff (inv : RInv r t top) : next r.cap t ≤ slotAt r.cap t (r.len - 1) ↔ r.len = r.cap := by
  by_cases hf : r.len = r.cap
  · rw [slotAt_last inv.tcap (hf ▸ Nat.sub_add_cancel inv.lenpos)]
    exact iff_of_true (Nat.le_refl _) hf
  · have ht := inv.notfull (Nat.lt_of_le_of_ne inv.lencap hf)
    rw [← ht, Nat.add_sub_cancel, slotAt, if_pos (Nat.le_refl t), Nat.sub_self, next, if_neg (ht ▸ hf)]
    exact iff_of_false (Nat.not_succ_le_zero t) (ht ▸ hf)

theorem pushRaw_cap (r : Ring) (h id : Nat) : (pushRaw r h id).cap = r.cap := rfl
theorem pushRaw_len (r : Ring) (h id : Nat) : (pushRaw r h id).len = min (r.len + 1) r.cap := rfl

theorem pushRaw_tail (inv : RInv r t top) (h id : Nat) : (pushRaw r h id).tail = some (next r.cap t) := by
  simp only [pushRaw, inv.tail]

theorem pushRaw_head (inv : RInv r t top) (h id : Nat) :
    (pushRaw r h id).head = some (slotAt r.cap (next r.cap t) (min (r.len + 1) r.cap - 1)) := by
  simp only [pushRaw, inv.tail, inv.head, moveHead_iff inv, decide_eq_true_eq]
  by_cases hf : r.len = r.cap
  · rw [if_pos hf, slotAt_last inv.tcap (hf ▸ Nat.sub_add_cancel inv.lenpos),
      Nat.min_eq_right (Nat.le_succ_of_le (Nat.le_of_eq hf.symm)),
      slotAt_last (next_lt inv.tcap) (Nat.sub_add_cancel inv.cap_pos)]
  · have hl : r.len < r.cap := Nat.lt_of_le_of_ne inv.lencap hf
    rw [if_neg hf, Nat.min_eq_left hl, Nat.succ_sub_one,
      ← slotAt_succ inv.tcap (Nat.lt_of_le_of_lt (Nat.sub_le _ _) hl), Nat.sub_add_cancel inv.lenpos]

theorem pushRaw_slots (inv : RInv r t top) (h id j : Nat) :
    (pushRaw r h id).slots j =
      if j = next r.cap t then { height := h, id := id, prev := if r.cap = 1 then none else some t, anc := none }
      else { r.slots j with
        prev := if r.len = r.cap ∧ j = next r.cap (next r.cap t) then none else (r.slots j).prev } := by
  simp only [pushRaw, inv.tail, inv.head, moveHead_iff inv, decide_eq_true_eq, upd]
  by_cases hj : j = next r.cap t
  · rw [if_pos hj, if_pos hj]
  · rw [if_neg hj, if_neg hj]
    by_cases hf : r.len = r.cap
    · simp only [hf, true_and, ↓reduceIte, slotAt_last inv.tcap (Nat.sub_add_cancel inv.cap_pos), Option.getD_some, upd]
      by_cases hj' : j = next r.cap (next r.cap t)
      · rw [if_pos hj', if_pos hj']
      · rw [if_neg hj', if_neg hj']
    · simp only [hf, false_and, ↓reduceIte]

theorem pushRaw_new (inv : RInv r t top) (h id : Nat) :
    (pushRaw r h id).slots (next r.cap t) =
      { height := h, id := id, anc := none,
        prev := if 1 < min (r.len + 1) r.cap then some (slotAt r.cap (next r.cap t) 1) else none } := by
  rw [pushRaw_slots inv, if_pos rfl]
  by_cases hc1 : r.cap = 1
  · rw [if_pos hc1, if_neg (Nat.not_lt.mpr (Nat.le_trans (Nat.min_le_right _ _) (Nat.le_of_eq hc1)))]
  · rw [if_neg hc1, if_pos (Nat.lt_min.mpr ⟨Nat.succ_lt_succ inv.lenpos, Nat.lt_of_le_of_ne inv.cap_pos (Ne.symm hc1)⟩),
      slotAt_succ inv.tcap inv.cap_pos, slotAt_zero]

/-- the old live node `k` is the new live node `k + 1`: same slot, same contents, and its `prev` is
the new live node `k + 2` if there is one (when the ring was full the new oldest node has lost
its `prev`: its slot is the new head) -/
theorem pushRaw_old (inv : RInv r t top) (h id : Nat) {k : Nat} (hk : k + 1 < min (r.len + 1) r.cap) :
    k < r.len ∧ slotAt r.cap (next r.cap t) (k + 1) = slotAt r.cap t k ∧
    (pushRaw r h id).slots (slotAt r.cap t k) =
      { r.slots (slotAt r.cap t k) with
        prev := if k + 2 < min (r.len + 1) r.cap then some (slotAt r.cap (next r.cap t) (k + 2)) else none } := by
  have hkl : k + 1 < r.len + 1 := (Nat.lt_min.mp hk).1
  have hkc : k + 1 < r.cap := (Nat.lt_min.mp hk).2
  have hhead : slotAt r.cap t k = next r.cap (next r.cap t) ↔ k + 2 = r.cap := by
    rw [← slotAt_succ inv.tcap (Nat.lt_of_succ_lt hkc)]; exact slotAt_eq_next_iff (next_lt inv.tcap) hkc
  refine ⟨Nat.lt_of_succ_lt_succ hkl, slotAt_succ inv.tcap (Nat.lt_of_succ_lt hkc), ?_⟩
  rw [pushRaw_slots inv, if_neg (slotAt_ne_next inv.tcap hkc), inv.prevs k (Nat.lt_of_succ_lt_succ hkl)]
  simp only [hhead]
  congr 1
  by_cases hlt : k + 1 < r.len
  · rw [if_pos hlt]
    by_cases hc : k + 2 < r.cap
    · rw [if_neg (fun c => Nat.ne_of_lt hc c.2), if_pos (Nat.lt_min.mpr ⟨Nat.succ_lt_succ hlt, hc⟩),
        slotAt_succ inv.tcap (Nat.lt_of_succ_lt hc)]
    · have e : k + 2 = r.cap := Nat.le_antisymm hkc (Nat.le_of_not_lt hc)
      rw [if_pos ⟨Nat.le_antisymm inv.lencap (Nat.le_trans (Nat.le_of_eq e.symm) hlt), e⟩,
        if_neg (fun c => hc (Nat.lt_min.mp c).2)]
  · rw [if_neg hlt, ite_self, if_neg (fun c => hlt (Nat.lt_of_succ_lt_succ (Nat.lt_min.mp c).1))]

theorem pushRaw_inv (inv : RInv r t top) (id : Nat) :
    RInv (pushRaw r (top + 1) id) (next r.cap t) (top + 1) := by
  have htc := inv.tcap
  have hnew := pushRaw_new inv (top + 1) id
  refine ⟨pushRaw_tail inv _ _, next_lt htc, Nat.lt_min.mpr ⟨Nat.succ_pos _, inv.cap_pos⟩, Nat.min_le_right _ _,
    Nat.le_trans (Nat.min_le_left _ _) (Nat.succ_le_succ inv.lentop), pushRaw_head inv _ _, ?_, ?_, ?_, ?_⟩
  · intro (hlt : min (r.len + 1) r.cap < r.cap)
    have hl : r.len + 1 < r.cap := Nat.lt_of_not_le fun hge => by
      rw [Nat.min_eq_right hge] at hlt; exact Nat.lt_irrefl _ hlt
    have ht := inv.notfull (Nat.lt_of_succ_lt hl)
    rw [next, ht, if_neg (Nat.ne_of_lt (Nat.lt_of_succ_lt hl))]
    exact (Nat.min_eq_left (Nat.le_of_lt hl)).symm
  · intro k' hk'
    rw [pushRaw_cap]
    cases k' with
    | zero => rw [slotAt_zero, hnew]; rfl
    | succ k =>
      obtain ⟨hk, e, hs⟩ := pushRaw_old inv (top + 1) id hk'
      rw [e, hs, Nat.add_sub_add_right]; exact inv.hts k hk
  · intro k' hk'
    rw [pushRaw_cap, pushRaw_len]
    cases k' with
    | zero => rw [slotAt_zero, hnew]
    | succ k => obtain ⟨_, e, hs⟩ := pushRaw_old inv (top + 1) id hk'; rw [e, hs]
  · intro k' hk' a ha
    rw [pushRaw_cap] at ha
    rw [pushRaw_cap, pushRaw_len]
    cases k' with
    | zero => rw [slotAt_zero, hnew] at ha; cases ha
    | succ k =>
      obtain ⟨hk, e, hs⟩ := pushRaw_old inv (top + 1) id hk'
      rw [e, hs] at ha
      rw [Nat.add_sub_add_right]
      rcases inv.ancs k hk a ha with ⟨j, hkj, hj, haj, hgj⟩ | hstale
      · by_cases hj1 : j + 1 < r.cap
        · exact .inl ⟨j + 1, Nat.succ_lt_succ hkj, Nat.lt_min.mpr ⟨Nat.succ_lt_succ hj, hj1⟩,
            by rw [haj, slotAt_succ htc (Nat.lt_of_succ_lt hj1)], by rw [Nat.add_sub_add_right]; exact hgj⟩
        · -- the skip pointer names the slot just overwritten by the new, highest, node
          rw [haj, slotAt_last htc (Nat.le_antisymm (Nat.le_trans hj inv.lencap) (Nat.le_of_not_lt hj1)), hnew]
          exact .inr (Nat.lt_succ_of_le (Nat.sub_le top k))
      · -- a stale pointer stays stale: its slot holds the same node as before or the new one
        refine .inr ?_
        rw [pushRaw_slots inv]
        by_cases e : a = next r.cap t
        · rw [if_pos e]; exact Nat.lt_succ_of_le (Nat.sub_le top k)
        · rw [if_neg e]; exact hstale
end

theorem build_eq (r : Ring) : build r = { r with slots := (build r).slots } := by
  unfold build; split
  · rfl
  · split <;> rfl

theorem build_slots {r : Ring} {t : Nat} (ht : r.tail = some t) (j : Nat) :
    (build r).slots j = { r.slots j with anc :=
      if j = t then
        match (r.slots t).prev with
        | none => (r.slots t).anc
        | some pe => ancestor r (some pe) (gah (r.slots t).height)
      else (r.slots j).anc } := by
  simp only [build, ht]
  generalize (r.slots t).prev = o
  by_cases hj : j = t
  · cases o with
    | none => subst hj; simp only [if_pos]
    | some pe => simp only [upd, if_pos hj]
  · cases o with
    | none => simp only [if_neg hj]
    | some pe => simp only [upd, if_neg hj]

/-- `buildAncestor` keeps the ring invariant: by `ancestor_correct` on the ring as it is when the
walk runs, the new skip pointer is the live node at `getAncestorHeight`, or nil. -/
theorem build_inv {r : Ring} {t top : Nat} (inv : RInv r t top) (hanc : (r.slots t).anc = none) : RInv (build r) t top := by
  have hs := build_slots inv.tail
  rw [build_eq]
  refine ⟨inv.tail, inv.tcap, inv.lenpos, inv.lencap, inv.lentop, inv.head, inv.notfull,
    fun k hk => (congrArg Slot.height (hs _)).trans (inv.hts k hk),
    fun k hk => (congrArg Slot.prev (hs _)).trans (inv.prevs k hk), fun k hk a ha => ?_⟩
  have ha := (congrArg Slot.anc (hs _)).symm.trans ha
  show _ ∨ ((build r).slots a).height > _
  rw [congrArg Slot.height (hs a)]
  by_cases hk0 : slotAt r.cap t k = t
  · -- the new skip pointer: what `ancestor` found from the previous node
    obtain rfl : k = 0 :=
      slotAt_inj (Nat.lt_of_lt_of_le hk inv.lencap) inv.cap_pos (hk0.trans (slotAt_zero _ _).symm)
    have hp := inv.prevs 0 hk
    have hh := inv.hts 0 hk
    rw [slotAt_zero] at hp hh
    rw [if_pos hk0, hp] at ha
    by_cases h1 : 0 + 1 < r.len
    · rw [if_pos h1] at ha
      obtain ⟨j, hj, h1j, rfl, hhj⟩ := ancestor_live r t top inv 1 _ h1 a ha
      exact .inl ⟨j, h1j, hj, rfl, (inv.hts j hj).symm.trans (hhj.trans (congrArg gah hh))⟩
    · rw [if_neg h1] at ha
      rw [hanc] at ha; cases ha
  · rw [if_neg hk0] at ha
    exact inv.ancs k hk a ha

theorem push_cap (r : Ring) (h id : Nat) : (push r h id).cap = r.cap := by rw [push, build_eq]; rfl
theorem push_len (r : Ring) (h id : Nat) : (push r h id).len = min (r.len + 1) r.cap := by rw [push, build_eq]; rfl

/-- **`PushBack` of the next height preserves the ring invariant.** -/
theorem push_preserves_RInv (r : Ring) (t top id : Nat) (inv : RInv r t top) :
    RInv (push r (top + 1) id) (next r.cap t) (top + 1) :=
  build_inv (pushRaw_inv inv id) (by rw [pushRaw_new inv])

end Neutrino.HL
