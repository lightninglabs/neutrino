import Neutrino.Spec.Lru
namespace Neutrino.Lru

@[simp] theorem total_nil : total [] = 0 := rfl
@[simp] theorem total_cons (e : Entry) (l : List Entry) : total (e :: l) = e.size + total l := by
  simp [total]
@[simp] theorem total_append (a b : List Entry) : total (a ++ b) = total a + total b := by
  simp [total]

theorem total_perm {a b : List Entry} (h : a.Perm b) : total a = total b := (h.map _).sum_nat

theorem total_erase {l : List Entry} {e : Entry} (h : e ∈ l) : total (l.erase e) + e.size = total l := by
  rw [total_perm (List.perm_cons_erase h), total_cons, Nat.add_comm]

/-- The coherence invariant of the cache's three data structures. -/
structure LInv (cap : Nat) (ll : List Entry) (size : Nat) (idx : List (Nat × Entry)) : Prop where
  capLt   : cap < two64
  sizeEq  : size = total ll
  sizeLe  : size ≤ cap
  idxIff  : ∀ k e, (k, e) ∈ idx ↔ (e ∈ ll ∧ e.key = k)
  nodupLL : (ll.map (·.key)).Nodup
  nodupIx : (idx.map (·.1)).Nodup

structure Inv (s : State) : Prop where
  linv : LInv s.cap s.ll s.size s.idx
  unlocked : s.locked = false

theorem inv_init (cap : Nat) (h : cap < two64) : Inv { cap := cap } :=
  ⟨⟨h, rfl, Nat.zero_le _, by simp, by simp, by simp⟩, rfl⟩

theorem idxLoad_some {idx : List (Nat × Entry)} {k : Nat} {e : Entry}
    (h : idxLoad idx k = some e) : (k, e) ∈ idx := by
  obtain ⟨⟨a, b⟩, hf, rfl⟩ := Option.map_eq_some_iff.1 h
  have hk : a = k := by simpa using List.find?_some hf
  exact hk ▸ List.mem_of_find?_eq_some hf

theorem idxLoad_none {idx : List (Nat × Entry)} {k : Nat}
    (h : idxLoad idx k = none) : ∀ e, (k, e) ∉ idx := by
  intro e he
  have := List.find?_eq_none.1 (Option.map_eq_none_iff.1 h) (k, e) he
  simp at this

theorem mem_idxDelete {idx : List (Nat × Entry)} {k k' : Nat} {e : Entry} :
    (k', e) ∈ idxDelete idx k ↔ ((k', e) ∈ idx ∧ k' ≠ k) := by
  simp [idxDelete]

theorem nodup_idxDelete {idx : List (Nat × Entry)} (k : Nat) (h : (idx.map (·.1)).Nodup) :
    ((idxDelete idx k).map (·.1)).Nodup :=
  (List.filter_sublist.map _).nodup h

theorem key_notin_idxDelete (idx : List (Nat × Entry)) (k : Nat) :
    k ∉ (idxDelete idx k).map (·.1) := by
  rw [List.mem_map]
  rintro ⟨⟨a, e⟩, hp, rfl⟩
  exact (mem_idxDelete.1 hp).2 rfl

theorem key_unique {l : List Entry} (hnd : (l.map (·.key)).Nodup) {a b : Entry} (ha : a ∈ l) (hb : b ∈ l)
    (hk : a.key = b.key) : a = b :=
  have hp : l.Pairwise (fun a b => a.key ≠ b.key) := List.pairwise_map.1 hnd
  List.Pairwise.forall_of_forall_of_flip (R := fun a b => a.key = b.key → a = b) (fun _ _ _ => rfl)
    (hp.imp fun hne hk => absurd hk hne) (hp.imp fun hne hk => absurd hk.symm hne) ha hb hk

theorem erase_eq_filter {l : List Entry} (hnd : (l.map (·.key)).Nodup) {el : Entry} (hel : el ∈ l) :
    l.erase el = l.filter (fun e => e.key != el.key) := by
  have hl : l.Nodup := List.Pairwise.of_map (·.key) (fun _ _ hne heq => hne (congrArg _ heq)) hnd
  rw [hl.erase_eq_filter]
  refine List.filter_congr fun x hx => ?_
  by_cases h : x = el
  · subst h; simp
  · exact (bne_iff_ne.2 h).trans (bne_iff_ne.2 fun hk => h (key_unique hnd hx hel hk)).symm

/-- `c.ll.Remove(el); c.cache.Delete(key); c.size -= es` in `Put` and `LoadAndDelete`, for the element
the index holds for `key` -/
theorem linv_remove {cap ll size idx} {k : Nat} {el : Entry} (h : LInv cap ll size idx)
    (hel : (k, el) ∈ idx) :
    LInv cap (ll.erase el) (sub64 size el.size) (idxDelete idx k) ∧ k ∉ (ll.erase el).map (·.key) := by
  obtain ⟨hmem, rfl⟩ := (h.idxIff k el).mp hel
  have hmf : ∀ e, e ∈ ll.erase el ↔ e ∈ ll ∧ e.key ≠ el.key := by
    simp [erase_eq_filter h.nodupLL hmem]
  refine ⟨⟨h.capLt, ?_, ?_, fun k' e' => ?_, (List.erase_sublist.map _).nodup h.nodupLL,
    nodup_idxDelete _ h.nodupIx⟩, ?_⟩
  · exact Nat.sub_eq_of_eq_add (h.sizeEq.trans (total_erase hmem).symm)
  · exact Nat.le_trans (Nat.sub_le _ _) h.sizeLe
  · rw [mem_idxDelete, h.idxIff, hmf]
    exact ⟨fun ⟨⟨hm, hk⟩, hne⟩ => ⟨⟨hm, hk ▸ hne⟩, hk⟩, fun ⟨⟨hm, hne⟩, hk⟩ => ⟨⟨hm, hk⟩, hk ▸ hne⟩⟩
  · rw [List.mem_map]
    exact fun ⟨e, he, hk⟩ => ((hmf e).1 he).2 hk

/-- one round of `evict`'s loop -/
theorem linv_pop {cap size idx} {b : Entry} {rest : List Entry} (h : LInv cap (b :: rest) size idx) :
    LInv cap rest (sub64 size b.size) (idxDelete idx b.key) := by
  have := (linv_remove h ((h.idxIff b.key b).mpr ⟨List.mem_cons_self, rfl⟩)).1
  rwa [List.erase_cons_head] at this

theorem sizeOf?_some {bad : List Nat} {e : Entry} {es : Nat} (h : sizeOf? bad e = some es) :
    es = e.size ∧ e.vid ∉ bad := by
  unfold sizeOf? at h
  split at h
  · cases h
  next hb => exact ⟨(Option.some.inj h).symm, hb⟩

theorem sizeOf?_none {bad : List Nat} {e : Entry} (h : sizeOf? bad e = none) : e.vid ∈ bad := by
  unfold sizeOf? at h
  split at h
  · assumption
  · cases h

/-- `evict` keeps the three structures coherent, reports success only when the new entry fits, and
removes a least-recently-used prefix of the list -/
theorem evict_inv (cap : Nat) (bad : List Nat) (needed : Nat) (ll : List Entry) (size : Nat)
    (idx : List (Nat × Entry)) (ev : Bool) (h : LInv cap ll size idx) :
    let r := evictLoop cap bad needed ll size idx ev
    LInv cap r.1 r.2.1 r.2.2.1 ∧ (r.2.2.2.2 = true → needed ≤ cap - r.2.1) ∧ ∃ n, r.1 = ll.drop n := by
  fun_induction evictLoop cap bad needed ll size idx ev with
  | case1 => exact ⟨h, fun hok => by simp at hok; exact hok, 0, rfl⟩
  | case2 => exact ⟨h, nofun, 0, rfl⟩
  | case3 _ _ _ _ _ _ _ hsz ih =>
    cases (sizeOf?_some hsz).1
    obtain ⟨h1, h2, n, hn⟩ := ih (linv_pop h)
    exact ⟨h1, h2, n + 1, hn⟩
  | case4 _ _ _ _ _ hlt => exact ⟨h, fun _ => Nat.le_of_not_lt hlt, 0, rfl⟩

/-- `c.ll.PushFront; c.size += vs; c.cache.Store` in `Put`, the key being no longer resident -/
theorem linv_push {cap ll size idx} {e : Entry} (h : LInv cap ll size idx)
    (hk : e.key ∉ ll.map (·.key)) (hfit : e.size ≤ cap - size) :
    LInv cap (ll ++ [e]) (add64 size e.size) (idxStore idx e.key e) := by
  have hkidx : ∀ e', (e.key, e') ∉ idx := fun e' hm =>
    hk (List.mem_map.mpr ⟨e', (h.idxIff e.key e').mp hm⟩)
  have hdel : idxDelete idx e.key = idx :=
    List.filter_eq_self.mpr fun ⟨a, b⟩ hp => by
      simp only [Bool.not_eq_true', beq_eq_false_iff_ne]
      rintro rfl
      exact hkidx b hp
  refine ⟨h.capLt, ?_, ?_, fun k' e' => ?_, ?_, ?_⟩
  · rw [total_append, ← h.sizeEq]; simp [add64]
  · exact Nat.add_le_of_le_sub' h.sizeLe hfit
  · simp only [idxStore, hdel, List.mem_cons, List.mem_append, List.not_mem_nil, or_false, Prod.mk.injEq,
      h.idxIff]
    constructor
    · rintro (⟨rfl, rfl⟩ | ⟨hm, hk'⟩)
      · exact ⟨Or.inr rfl, rfl⟩
      · exact ⟨Or.inl hm, hk'⟩
    · rintro ⟨hm | rfl, hk'⟩
      · exact Or.inr ⟨hm, hk'⟩
      · exact Or.inl ⟨hk'.symm, rfl⟩
  · rw [List.map_append, List.nodup_append]
    refine ⟨h.nodupLL, by simp, fun a ha b hb => ?_⟩
    cases List.mem_singleton.1 hb
    rintro rfl
    exact hk ha
  · rw [idxStore, hdel, List.map_cons, List.nodup_cons]
    exact ⟨fun hm => by obtain ⟨⟨a, b⟩, hp, rfl⟩ := List.mem_map.mp hm; exact hkidx b hp, h.nodupIx⟩

/-- The tail of `Put` after the old entry (if any) is gone: evict, then insert. -/
theorem linv_evict_push {cap : Nat} {bad : List Nat} {ll size idx} {k sz : Nat}
    (h : LInv cap ll size idx) (hk : k ∉ ll.map (·.key)) {ll' size' idx'} {ev ok : Bool}
    (heq : evictLoop cap bad sz ll size idx false = (ll', size', idx', ev, ok)) :
    LInv cap ll' size' idx' ∧
    (ok = true → ∀ vid, LInv cap (ll' ++ [⟨k, vid, sz⟩]) (add64 size' sz) (idxStore idx' k ⟨k, vid, sz⟩)) := by
  have := evict_inv cap bad sz ll size idx false h
  rw [heq] at this
  obtain ⟨h1, h2, n, (hn : ll' = _)⟩ := this
  exact ⟨h1, fun hok vid => linv_push (e := ⟨k, vid, sz⟩) h1
    (hn ▸ fun hm => hk (((List.drop_sublist n ll).map _).subset hm)) (h2 hok)⟩

theorem notin_keys_of_idxLoad_none {cap ll size idx} (h : LInv cap ll size idx) {k : Nat}
    (hload : idxLoad idx k = none) : k ∉ ll.map (·.key) := fun hm => by
  obtain ⟨e, he, rfl⟩ := List.mem_map.mp hm
  exact idxLoad_none hload e ((h.idxIff _ e).mpr ⟨he, rfl⟩)

theorem inv_step (s : State) (op : Op) (h : Inv s) : Inv (step s op).1 := by
  have hl := h.linv
  have hu := h.unlocked
  fun_cases step s op
  -- the arms that return the state as it was
  any_goals exact h
  -- poison, heal
  · exact ⟨hl, hu⟩
  · exact ⟨hl, hu⟩
  -- put over a resident key, the eviction succeeding / failing
  · cases (sizeOf?_some ‹_›).1
    have hrm := linv_remove hl (idxLoad_some ‹_›)
    exact ⟨(linv_evict_push hrm.1 hrm.2 ‹_›).2 rfl _, hu⟩
  · cases (sizeOf?_some ‹_›).1
    have hrm := linv_remove hl (idxLoad_some ‹_›)
    exact ⟨(linv_evict_push hrm.1 hrm.2 ‹_›).1, hu⟩
  -- put of a new key, the same
  · exact ⟨(linv_evict_push hl (notin_keys_of_idxLoad_none hl ‹_›) ‹_›).2 rfl _, hu⟩
  · exact ⟨(linv_evict_push hl (notin_keys_of_idxLoad_none hl ‹_›) ‹_›).1, hu⟩
  -- get of a resident key: the list is permuted
  · rename_i el _ _ _
    have hm := ((hl.idxIff _ el).mp (idxLoad_some ‹_›)).1
    have hperm : (s.ll.erase el ++ [el]).Perm s.ll :=
      List.perm_append_comm.trans (List.perm_cons_erase hm).symm
    exact ⟨⟨hl.capLt, hl.sizeEq.trans (total_perm hperm).symm, hl.sizeLe,
      fun k' e' => by rw [hl.idxIff, hperm.mem_iff], (hperm.map _).nodup_iff.mpr hl.nodupLL, hl.nodupIx⟩, hu⟩
  -- del of a resident key
  · cases (sizeOf?_some ‹_›).1
    exact ⟨(linv_remove hl (idxLoad_some ‹_›)).1, hu⟩

theorem inv_run (s : State) (ops : List Op) (h : Inv s) : Inv (run s ops) := by
  induction ops generalizing s with
  | nil => exact h
  | cons o os ih => exact ih _ (inv_step s o h)

theorem step_cap (s : State) (op : Op) : (step s op).1.cap = s.cap := by
  fun_cases step s op <;> rfl

theorem run_cap (s : State) (ops : List Op) : (run s ops).cap = s.cap := by
  induction ops generalizing s with
  | nil => rfl
  | cons o os ih => exact (ih _).trans (step_cap s o)

end Neutrino.Lru
