import Neutrino.Lemmas.Store
/-!
`Rep d l`: the durable state `d` represents the log `l`.  Its index part,
`Indexed`, is what the appends and rollbacks change through `Db`; the files are
plain lists beside it.
-/
namespace Neutrino.Store

/-- `Rep d l`: the durable state `d` represents the log `l` — files whole and
equal to the lists, index = positions of the block ids, tips = last entries,
filter headers not ahead of block headers. -/
structure Rep (d : Durable) (l : Log) : Prop where
  bents : d.bf = { ents := l.blocks }
  fents : d.ff = { ents := l.filters }
  neB   : l.blocks ≠ []
  neF   : l.filters ≠ []
  nodup : l.blocks.Nodup
  idxPos  : ∀ i id, l.blocks[i]? = some id → d.db.height? id = some i
  idxOnly : ∀ id h, d.db.height? id = some h → l.blocks[h]? = some id
  btip  : d.db.btip = l.blocks.getLast?
  ftip  : ∃ b, d.db.ftip = some b ∧ d.db.height? b = some (l.filters.length - 1)
  fle   : l.filters.length ≤ l.blocks.length

/-- The callers' contract (proved of the block manager and the importer in
C01/C03/C14): appended block ids are fresh and distinct; filter headers are
only appended for blocks that exist; a block rollback never orphans a filter
header and stays above genesis; the filter store is not rolled back below
genesis. -/
def Contract (l : Log) : Op → Prop
  | .wb ids => ids.Nodup ∧ ∀ x ∈ ids, x ∉ l.blocks
  | .wf fids => l.filters.length + fids.length ≤ l.blocks.length
  | .rb n => n < l.blocks.length ∧ l.filters.length ≤ l.blocks.length - n
  | .rf => 1 < l.filters.length
  | .rollto _ => True
  | .reopen => True

/-- `Indexed db l`: the index `db` represents the log `l` — it maps exactly the
block ids to their positions, and the tips name the last entries, the filter
headers not ahead of the block headers.  The part of `Rep` that no file
operation touches. -/
structure Indexed (db : Db) (l : Log) : Prop where
  neB   : l.blocks ≠ []
  neF   : l.filters ≠ []
  idxPos  : ∀ i id, l.blocks[i]? = some id → db.height? id = some i
  idxOnly : ∀ id h, db.height? id = some h → l.blocks[h]? = some id
  btip  : db.btip = l.blocks.getLast?
  ftip  : ∃ b, db.ftip = some b ∧ db.height? b = some (l.filters.length - 1)
  fle   : l.filters.length ≤ l.blocks.length

namespace Indexed

/-- an id has one index entry, so it occurs once -/
theorem nodup {db : Db} {l : Log} (h : Indexed db l) : l.blocks.Nodup := by
  rw [List.nodup_iff_pairwise_ne, List.pairwise_iff_getElem]
  intro i j hi hj hij heq
  have h1 := h.idxPos i _ (List.getElem?_eq_getElem hi)
  have h2 := h.idxPos j _ (List.getElem?_eq_getElem hj)
  rw [heq, h2] at h1
  exact absurd (Option.some.inj h1) (Nat.ne_of_gt hij)

theorem mem_of_height? {db : Db} {l : Log} (h : Indexed db l) {id i : Nat} (hh : db.height? id = some i) :
    id ∈ l.blocks :=
  List.mem_of_getElem? (h.idxOnly id i hh)

theorem btipHeight {db : Db} {l : Log} (h : Indexed db l) {d : Durable} (hd : d.db = db) :
    ∃ tip, l.blocks.getLast? = some tip ∧ btipHeight? d = some (tip, l.blocks.length - 1) := by
  subst hd
  obtain ⟨tip, htip⟩ := List.getLast?_isSome.mpr h.neB |> Option.isSome_iff_exists.mp
  have := h.idxPos _ _ (List.getLast?_eq_getElem? ▸ htip)
  exact ⟨tip, htip, by simp [btipHeight?, h.btip, htip, this]⟩

theorem ftipHeight {db : Db} {l : Log} (h : Indexed db l) {d : Durable} (hd : d.db = db) :
    ∃ b, ftipHeight? d = some (b, l.filters.length - 1) := by
  subst hd
  obtain ⟨b, hb, hh⟩ := h.ftip
  exact ⟨b, by simp [ftipHeight?, hb, hh]⟩

theorem addHeaders {db : Db} {l : Log} (h : Indexed db l) {ids : List Nat}
    (hnd : ids.Nodup) (hfresh : ∀ x ∈ ids, x ∉ l.blocks) (hne : ids ≠ []) :
    Indexed (db.addHeaders ids l.blocks.length) { l with blocks := l.blocks ++ ids } := by
  have hold : ∀ {x i}, db.height? x = some i → (db.addHeaders ids l.blocks.length).height? x = some i :=
    fun hx => by rw [height?_addHeaders_of_not_mem _ _ fun hm => hfresh _ hm (h.mem_of_height? hx)]; exact hx
  refine ⟨by simp [h.neB], h.neF, fun i id hget => ?_, fun id i hh => ?_, ?_, ?_, ?_⟩
  · by_cases hi : i < l.blocks.length
    · rw [List.getElem?_append_left hi] at hget
      exact hold (h.idxPos i id hget)
    · have hi := Nat.le_of_not_lt hi
      rw [List.getElem?_append_right hi] at hget
      rw [height?_addHeaders_getElem? _ _ hnd hget, Nat.add_sub_cancel' hi]
  · by_cases hm : id ∈ ids
    · obtain ⟨j, hj⟩ := List.getElem?_of_mem hm
      rw [height?_addHeaders_getElem? _ _ hnd hj] at hh
      obtain rfl := Option.some.inj hh
      rwa [List.getElem?_append_right (Nat.le_add_right _ _), Nat.add_sub_cancel_left]
    · rw [height?_addHeaders_of_not_mem _ _ hm] at hh
      have := h.idxOnly id i hh
      rwa [List.getElem?_append_left (List.getElem?_eq_some_iff.mp this).1]
  · obtain ⟨t, ht⟩ := Option.isSome_iff_exists.mp (List.getLast?_isSome.mpr hne)
    simp [addHeaders_btip, List.getLast?_append, ht]
  · obtain ⟨b, hb, hh⟩ := h.ftip
    exact ⟨b, by rw [addHeaders_ftip]; exact hb, hold hh⟩
  · exact Nat.le_trans h.fle (List.length_append ▸ Nat.le_add_right _ _)

/-- deleting the entries from height `m` on keeps exactly the heights below `m` -/
theorem height?_delAll_drop {db : Db} {l : Log} (h : Indexed db l) (m : Nat) (t : Option Nat) (id : Nat) :
    ({ db.delAll (l.blocks.drop m) with btip := t } : Db).height? id = (db.height? id).filter (· < m) := by
  show (db.delAll (l.blocks.drop m)).height? id = _
  rw [height?_delAll]
  cases hh : db.height? id with
  | none => simp
  | some i =>
    have hpos := h.idxOnly id i hh
    by_cases hi : i < m
    · have : id ∉ l.blocks.drop m := fun hm => by
        obtain ⟨j, hj⟩ := List.getElem?_of_mem hm
        rw [List.getElem?_drop] at hj
        have := h.idxPos _ _ hj
        rw [hh] at this
        exact Nat.not_lt.mpr (Nat.le_add_right m j) (Option.some.inj this ▸ hi)
      simp [this, hi, Option.filter_some]
    · have : id ∈ l.blocks.drop m := by
        apply List.mem_of_getElem? (i := i - m)
        rw [List.getElem?_drop, Nat.add_sub_cancel' (Nat.le_of_not_lt hi)]; exact hpos
      simp [this, hi, Option.filter_some]

theorem delAll {db : Db} {l : Log} (h : Indexed db l) {m prev : Nat}
    (hf : l.filters.length ≤ m) (hprev : l.blocks[m - 1]? = some prev) :
    Indexed { db.delAll (l.blocks.drop m) with btip := some prev } { l with blocks := l.blocks.take m } := by
  have hF : 0 < l.filters.length := List.length_pos_iff.mpr h.neF
  have hm : m ≤ l.blocks.length := Nat.le_of_pred_lt (List.getElem?_eq_some_iff.mp hprev).1
  have hm0 : m ≠ 0 := Nat.ne_of_gt (Nat.lt_of_lt_of_le hF hf)
  refine ⟨fun hc => ?_, h.neF, fun i id hget => ?_, fun id i hh => ?_, ?_, ?_, ?_⟩
  · rcases List.take_eq_nil_iff.mp hc with h0 | h0
    · exact hm0 h0
    · exact h.neB h0
  · rw [List.getElem?_take] at hget
    split at hget
    · rw [h.height?_delAll_drop, h.idxPos i id hget]; simp [*, Option.filter_some]
    · cases hget
  · rw [h.height?_delAll_drop, Option.filter_eq_some_iff] at hh
    rw [List.getElem?_take_of_lt (by simpa using hh.2)]; exact h.idxOnly id i hh.1
  · show some prev = (l.blocks.take m).getLast?
    rw [List.getLast?_take, if_neg hm0, hprev]; rfl
  · obtain ⟨b, hb, hh⟩ := h.ftip
    refine ⟨b, by simpa [delAll_ftip] using hb, ?_⟩
    rw [h.height?_delAll_drop, hh]
    simp [Option.filter_some, Nat.lt_of_lt_of_le (Nat.sub_lt hF Nat.one_pos) hf]
  · exact (List.length_take_of_le hm).symm ▸ hf

/-- moving the filter tip: any filter log as long as the height of the named block says -/
theorem setFtip {db : Db} {l : Log} (h : Indexed db l) {fs : List Nat} {last : Nat} (hne : fs ≠ [])
    (hlast : l.blocks[fs.length - 1]? = some last) :
    Indexed { db with ftip := some last } { l with filters := fs } :=
  ⟨h.neB, hne, h.idxPos, h.idxOnly, h.btip, ⟨last, rfl, h.idxPos _ _ hlast⟩,
    Nat.le_of_pred_lt (List.getElem?_eq_some_iff.mp hlast).1⟩

end Indexed

theorem Rep.indexed {d : Durable} {l : Log} (h : Rep d l) : Indexed d.db l :=
  ⟨h.neB, h.neF, h.idxPos, h.idxOnly, h.btip, h.ftip, h.fle⟩

theorem Indexed.rep {d : Durable} {l : Log} (h : Indexed d.db l) (hb : d.bf = { ents := l.blocks })
    (hf : d.ff = { ents := l.filters }) : Rep d l :=
  ⟨hb, hf, h.neB, h.neF, h.nodup, h.idxPos, h.idxOnly, h.btip, h.ftip, h.fle⟩

theorem rep_btipHeight {d : Durable} {l : Log} (h : Rep d l) :
    ∃ tip, l.blocks.getLast? = some tip ∧ btipHeight? d = some (tip, l.blocks.length - 1) :=
  h.indexed.btipHeight rfl

theorem rep_ftipHeight {d : Durable} {l : Log} (h : Rep d l) :
    ∃ b, ftipHeight? d = some (b, l.filters.length - 1) :=
  h.indexed.ftipHeight rfl

theorem rep_init : Rep init Log.init := by
  refine Indexed.rep ⟨by simp [Log.init], by simp [Log.init], fun i id h => ?_, fun id h hh => ?_, rfl, ⟨0, rfl, rfl⟩,
    Nat.le_refl _⟩ rfl rfl
  · obtain ⟨rfl, rfl⟩ : i = 0 ∧ id = 0 := by cases i <;> simp_all [Log.init]
    rfl
  · have e : init.db.height? id = if id = 0 then some 0 else none := height?_put {} 0 0 id
    rw [e] at hh
    split at hh
    · obtain rfl := Option.some.inj hh; subst id; rfl
    · cases hh

end Neutrino.Store
