/-
The peer ranking the CODE defines (`(*peerRanking).AddPeer / Punish / Reward / ResetRanking`,
translated from query/peer_rank.go on every run, Gen/TransRank.lean; the map field `rank` is threaded
through each method) is the ranking of the dispatcher model (`Disp.addPeer / punish / reward /
resetRank`), for every injective naming of peer addresses.
-/
import Neutrino.Gen.TransRank
import Neutrino.Model.Dispatcher
namespace Neutrino.Disp
open Neutrino.Gen.TransRank Neutrino.GoInt

/-- the code's `map[string]uint64` as the model's association list over peer ids -/
def absRank (enc : String → Nat) (r : List (String × Nat)) : List (Nat × Nat) := r.map (fun e => (enc e.1, e.2))

theorem mhas_cons (e : String × Nat) (r : List (String × Nat)) (k : String) :
    mhas (e :: r) k = (e.1 == k || mhas r k) := rfl

theorem mlookup_cons (e : String × Nat) (r : List (String × Nat)) (k : String) :
    mlookup (e :: r) k = if e.1 == k then e.2 else mlookup r k := by
  rw [mlookup, List.find?_cons]
  cases e.1 == k <;> rfl

theorem mlookup_of_mhas {P : Nat → Prop} {r : List (String × Nat)} {k : String} (hr : ∀ e ∈ r, P e.2)
    (h : mhas r k = true) : P (mlookup r k) := by
  induction r with
  | nil => cases h
  | cons e r ih =>
    rw [mlookup_cons]
    rw [mhas_cons] at h
    cases he : e.1 == k with
    | true => exact hr e List.mem_cons_self
    | false => exact ih (fun x hx => hr x (List.mem_cons_of_mem _ hx)) (by rwa [he] at h)

section
variable (enc : String → Nat) (henc : ∀ a b, enc a = enc b → a = b)
include henc

theorem enc_beq (a b : String) : (enc a == enc b) = (a == b) :=
  Bool.eq_iff_iff.mpr ⟨fun h => beq_iff_eq.mpr (henc _ _ (beq_iff_eq.mp h)),
    fun h => beq_iff_eq.mpr (congrArg enc (beq_iff_eq.mp h))⟩

/-- the model's `lookup` on the abstracted map is the code's comma-ok read `v, ok := m[k]` -/
theorem lookup_abs (r : List (String × Nat)) (k : String) :
    (absRank enc r).lookup (enc k) = if mhas r k then some (mlookup r k) else none := by
  induction r with
  | nil => rfl
  | cons e r ih =>
    rw [absRank, List.map_cons, List.lookup_cons, enc_beq enc henc, ← absRank, ih, mhas_cons, mlookup_cons,
      BEq.comm (a := k)]
    cases e.1 == k <;> rfl

theorem minsert_abs (r : List (String × Nat)) (k : String) (v : Nat) :
    absRank enc (minsert r k v) = setScore (absRank enc r) (enc k) v := by
  simp only [absRank, minsert, merase, setScore, List.map_cons, List.filter_map, List.cons.injEq, true_and]
  congr 1
  apply List.filter_congr
  intro e _
  simp only [Function.comp_apply, bne, enc_beq enc henc]

/-- **`AddPeer` is the model's `addPeer`** -/
theorem trans_addPeer (r : List (String × Nat)) (k : String) :
    absRank enc (peerRanking_AddPeer k r) = addPeer (absRank enc r) (enc k) := by
  simp only [peerRanking_AddPeer, addPeer, lookup_abs enc henc]
  cases mhas r k
  · exact minsert_abs enc henc ..
  · rfl

/-- **`Punish` is the model's `punish`** (scores below 2^64 - 1: the code's `score + 1` is a
`uint64` addition; a punishment never raises a score above `worstScore`, `C12_score_moves`) -/
theorem trans_punish (r : List (String × Nat)) (k : String) (hr : ∀ e ∈ r, e.2 + 1 < 2 ^ 64) :
    absRank enc (peerRanking_Punish k r) = punish (absRank enc r) (enc k) := by
  simp only [peerRanking_Punish, punish, lookup_abs enc henc]
  cases hm : mhas r k with
  | false => rfl
  | true =>
    by_cases h8 : mlookup r k = 8
    · simp only [h8, ↓reduceIte, Gen.Dispatcher.worstScore]
    · simp only [h8, ↓reduceIte, Gen.Dispatcher.worstScore, minsert_abs enc henc,
        uadd_of_lt (mlookup_of_mhas (P := fun v => v + 1 < 2 ^ 64) hr hm)]

/-- **`Reward` is the model's `reward`** -/
theorem trans_reward (r : List (String × Nat)) (k : String) :
    absRank enc (peerRanking_Reward k r) = reward (absRank enc r) (enc k) := by
  simp only [peerRanking_Reward, reward, lookup_abs enc henc]
  cases mhas r k with
  | false => rfl
  | true =>
    by_cases h0 : mlookup r k = 0
    · simp only [h0, ↓reduceIte, Gen.Dispatcher.bestScore]
    · simp only [h0, ↓reduceIte, Gen.Dispatcher.bestScore, minsert_abs enc henc,
        usub_of_le (Nat.pos_of_ne_zero h0)]

/-- **`ResetRanking` is the model's `resetRank`** -/
theorem trans_resetRank (r : List (String × Nat)) (k : String) :
    absRank enc (peerRanking_ResetRanking k r) = resetRank (absRank enc r) (enc k) := by
  simp only [peerRanking_ResetRanking, resetRank, lookup_abs enc henc]
  cases mhas r k
  · rfl
  · exact minsert_abs enc henc ..

/-- what `Order` compares: the score the code's map gives a peer is the model's `scoreOf` -/
theorem trans_scoreOf (r : List (String × Nat)) (k : String) :
    (if mhas r k then mlookup r k else Gen.Dispatcher.defaultScore) = scoreOf (absRank enc r) (enc k) := by
  rw [scoreOf, lookup_abs enc henc]
  cases mhas r k <;> rfl
end

end Neutrino.Disp
