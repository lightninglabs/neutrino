/-
Lemmas for C12: the verdict bookkeeping of the dispatcher model seen through an
abstraction (`Abs`: live batch ids, verdict log, next batch number, quit flag),
the five ways one step can move it (`R`), and the invariant `InvA` they preserve.
-/
import Neutrino.Lemmas.Dispatcher
namespace Neutrino.Disp

structure Abs where
  ids  : List Nat
  vs   : List (Nat × Verdict)
  nb   : Nat
  quit : Bool

def abs (s : State) : Abs := ⟨s.batches.map (·.id), s.verdicts, s.nextBatch, s.quit⟩

def vids (a : Abs) : List Nat := a.vs.map (·.1)

inductive R : Abs → Abs → Prop
  | same (a : Abs) : R a a
  | emit (a : Abs) (b : Nat) (v : Verdict) : b ∈ a.ids → a.quit = false →
      R a ⟨a.ids.filter (fun x => x != b), a.vs ++ [(b, v)], a.nb, a.quit⟩
  | new (a : Abs) : a.quit = false → R a ⟨a.ids ++ [a.nb], a.vs, a.nb + 1, a.quit⟩
  | quit (a : Abs) : R a ⟨[], a.vs ++ a.ids.map (fun b => (b, Verdict.shutdown)), a.nb, true⟩
  | late (a : Abs) : a.quit = true → R a ⟨a.ids, a.vs ++ [(a.nb, Verdict.shutdown)], a.nb + 1, a.quit⟩

/-- the live batches and the batches that have their verdict are, together, the batch numbers handed out so far,
each once; after `quit` no batch is live -/
structure InvA (a : Abs) : Prop where
  perm : (a.ids ++ vids a).Perm (List.range a.nb)
  quitEmpty : a.quit = true → a.ids = []

theorem InvA.nodup {a : Abs} (h : InvA a) : (a.ids ++ vids a).Nodup := h.perm.nodup_iff.mpr List.nodup_range

theorem InvA.nodupVs {a : Abs} (h : InvA a) : (vids a).Nodup := (List.nodup_append.mp h.nodup).2.1

theorem InvA.lt_iff {a : Abs} (h : InvA a) (b : Nat) : b < a.nb ↔ b ∈ a.ids ∨ b ∈ vids a := by
  rw [← List.mem_range, ← h.perm.mem_iff, List.mem_append]

theorem invA_R {a a' : Abs} (h : InvA a) (r : R a a') : InvA a' := by
  cases r with
  | same => exact h
  | emit b v hb hq =>
    refine ⟨.trans ?_ h.perm, fun hq' => absurd (hq.symm.trans hq') (by decide)⟩
    have hids := perm_cons_filter (fun x => x) (List.map_id' _ ▸ (List.nodup_append.mp h.nodup).1) hb
    refine .trans ?_ (hids.symm.append_right _)
    simp only [vids, List.map_append, List.map_cons, List.map_nil, ← List.append_assoc]
    exact List.perm_append_singleton ..
  | new hq =>
    refine ⟨?_, fun hq' => absurd (hq.symm.trans hq') (by decide)⟩
    rw [List.range_succ, List.append_assoc]
    exact ((List.perm_append_comm).append_left _).trans (List.append_assoc .. ▸ h.perm.append_right _)
  | quit =>
    refine ⟨.trans ?_ h.perm, fun _ => rfl⟩
    simp only [vids, List.map_append, List.map_map, List.nil_append]
    exact List.perm_append_comm.trans (.append_right _ (.of_eq (List.map_id' _)))
  | late hq =>
    refine ⟨?_, fun _ => h.quitEmpty hq⟩
    simp only [vids, List.map_append, List.map_cons, List.map_nil, List.range_succ, ← List.append_assoc]
    exact h.perm.append_right _

theorem ids_update (f : Batch → Batch) (hf : ∀ x, (f x).id = x.id) (bs : List Batch) (b : Nat) :
    (bs.map (fun x => if x.id == b then f x else x)).map (·.id) = bs.map (·.id) := by
  rw [List.map_map]
  refine List.map_congr_left fun x _ => ?_
  show (if x.id == b then f x else x).id = x.id
  split
  · exact hf x
  · rfl

theorem ids_setRem (bs : List Batch) (b r : Nat) : (setRem bs b r).map (·.id) = bs.map (·.id) :=
  ids_update (fun x => { x with rem := r }) (fun _ => rfl) bs b

theorem ids_bumpGen (bs : List Batch) (b : Nat) : (bumpGen bs b).map (·.id) = bs.map (·.id) :=
  ids_update (fun x => { x with gen := x.gen + 1 }) (fun _ => rfl) bs b

theorem ids_setHard (bs : List Batch) (b : Nat) : (setHard bs b).map (·.id) = bs.map (·.id) :=
  ids_update (fun x => { x with hardPassed := true }) (fun _ => rfl) bs b

theorem ids_delB (bs : List Batch) (b : Nat) :
    (delB bs b).map (·.id) = (bs.map (·.id)).filter (fun x => x != b) := by
  rw [delB, List.filter_map]; rfl

theorem abs_congr {s s' : State} (hb : s'.batches.map (·.id) = s.batches.map (·.id))
    (hv : s'.verdicts = s.verdicts) (hn : s'.nextBatch = s.nextBatch) (hq : s'.quit = s.quit) :
    abs s' = abs s := by
  rw [abs, hb, hv, hn, hq]; rfl

theorem R.of_eq {a a' : Abs} (h : a' = a) : R a a' := h ▸ .same a

theorem R_emit {a : Abs} {s2 : State} (h : abs s2 = a) {b : Nat} (hb : b ∈ a.ids) (hq : a.quit = false)
    (v : Verdict) : R a (abs (emit s2 b v)) := by
  subst h
  have : abs (emit s2 b v) =
      ⟨(abs s2).ids.filter (fun x => x != b), (abs s2).vs ++ [(b, v)], (abs s2).nb, (abs s2).quit⟩ :=
    congrArg (Abs.mk · _ _ _) (ids_delB ..)
  exact this ▸ .emit _ b v hb hq

theorem hardCheck_R {a : Abs} {s2 : State} (h : abs s2 = a) {bn : Nat} (hb : bn ∈ a.ids) (hq : a.quit = false)
    (bp : Batch) (pr : Bool) (outs : List Out) : R a (abs (hardCheck s2 bn bp pr outs).1) := by
  subst h
  exact hardCheck_cases (fun r => R _ (abs r.1)) (fun _ => R_emit rfl hb hq _)
    (.of_eq (abs_congr (s := s2) (ids_bumpGen ..) rfl rfl rfl)) (.same _)

theorem stepResult_R (s : State) (hq : s.quit = false) (p : Nat) (e : Err) :
    R (abs s) (abs (stepResult s p e).1) := by
  cases hw : findW s.workers p with
  | none => rw [stepResult_unknown hw]; exact .same _
  | some w =>
    cases ha : w.active with
    | none => rw [stepResult_idle hw ha]; exact .same _
    | some job =>
      cases hf : findB s.batches ((s.queries.lookup job.idx).getD 0) with
      | none => rw [stepResult_ended hw ha rfl hf]; exact .same _
      | some bp =>
        have hb : (s.queries.lookup job.idx).getD 0 ∈ (abs s).ids :=
          (findB_some hf).2 ▸ List.mem_map_of_mem (findB_some hf).1
        by_cases he : e = .ok
        · rw [he, stepResult_ok hw ha rfl hf]
          refine if_elim (fun r => R (abs s) (abs r.1))
            (fun _ => R_emit ?_ hb hq _) (fun _ => hardCheck_R ?_ hb hq ..) <;>
          exact abs_congr (ids_setRem ..) rfl rfl rfl
        by_cases he' : e = .canceled
        · rw [he', stepResult_canceled hw ha rfl hf]; exact R_emit rfl hb hq _
        · rw [stepResult_failed hw ha rfl hf he he']
          refine if_elim (fun r => R (abs s) (abs r.1))
            (fun _ => R_emit ?_ hb hq _) (fun _ => hardCheck_R ?_ hb hq ..) <;> rfl

theorem stepWake_R (s : State) (hq : s.quit = false) (b g : Nat) : R (abs s) (abs (stepWake s b g).1) :=
  stepWake_cases (fun r => R (abs s) (abs r.1)) (.same _) fun _ hf _ =>
    R_emit rfl ((findB_some hf).2 ▸ List.mem_map_of_mem (findB_some hf).1) hq _

theorem step_R (s : State) (e : Ev) : R (abs s) (abs (step s e).1) := by
  refine step_cases (P := fun _ r => R (abs s) (abs r.1)) s e (.same _)
    (late := fun hq _ _ _ _ _ => .late (abs s) hq) (quit := fun _ => ?quit)
    (exit := fun _ _ => stepExit_cases (fun r => R _ (abs r.1)) (fun _ => .same _) fun _ _ => .same _)
    (elapse := fun _ _ => .of_eq (abs_congr (ids_setHard ..) rfl rfl rfl))
    (accept := fun _ _ => stepAccept_cases (fun r => R _ (abs r.1)) (.same _) fun _ _ _ _ => .same _)
    (newBatch := fun hq _ _ _ _ _ _ => ?new)
    (peer := fun _ _ _ => .same _) (result := fun hq _ => stepResult_R s hq) (wake := fun hq _ => stepWake_R s hq)
  case quit =>
    have h := R.quit (abs s)
    simp only [abs, List.map_map] at h
    exact h
  case new =>
    show R (abs s) ⟨(s.batches ++ [_]).map Batch.id, _, _, _⟩
    rw [List.map_append]
    exact .new (abs s) hq

theorem invA_init : InvA (abs init) := ⟨.refl _, fun _ => rfl⟩

theorem length_filter_fst (vs : List (Nat × Verdict)) (b : Nat) :
    (vs.filter (fun x => x.1 == b)).length = (vs.map (·.1)).count b := by
  rw [List.count_eq_countP, List.countP_map, List.countP_eq_length_filter]; rfl

theorem InvA.verdicts_le_one {s : State} (a : InvA (abs s)) (b : Nat) :
    (s.verdicts.filter (fun x => x.1 == b)).length ≤ 1 :=
  length_filter_fst .. ▸ List.nodup_iff_count.mp a.nodupVs b

theorem InvA.verdicts_eq_one {s : State} (a : InvA (abs s)) (hq : s.quit = true) {b : Nat}
    (hb : b < s.nextBatch) : (s.verdicts.filter (fun x => x.1 == b)).length = 1 := by
  have hmem : b ∈ vids (abs s) :=
    ((a.lt_iff b).mp hb).resolve_left fun h => List.not_mem_nil (a.quitEmpty hq ▸ h)
  refine Nat.le_antisymm (a.verdicts_le_one b) ?_
  rw [length_filter_fst]
  exact List.one_le_count_iff.mpr hmem

end Neutrino.Disp
