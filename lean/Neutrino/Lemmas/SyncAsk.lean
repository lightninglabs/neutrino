/- Lemmas for the request model Neutrino/Model/SyncAsk.lean. -/
import Neutrino.Model.SyncAsk
namespace Neutrino.Ask

theorem best_cons (p : Peer) (ps : List Peer) :
    (best (p :: ps) = some p ∧ ∀ b, best ps = some b → b.claim ≤ p.claim) ∨
    (∃ b, best (p :: ps) = some b ∧ best ps = some b ∧ p.claim < b.claim) := by
  rw [best]
  cases best ps with
  | none => exact .inl ⟨rfl, fun _ h => nomatch h⟩
  | some b =>
    dsimp only; split
    · next h => exact .inr ⟨b, rfl, rfl, h⟩
    · next h => exact .inl ⟨rfl, fun _ hb => Option.some.inj hb ▸ Nat.le_of_not_lt h⟩

theorem best_mem {ps : List Peer} {b : Peer} (h : best ps = some b) : b ∈ ps := by
  induction ps with
  | nil => cases h
  | cons a as ih =>
    rcases best_cons a as with ⟨e, _⟩ | ⟨c, e, hc, _⟩ <;> rw [e] at h <;> cases h
    · exact List.mem_cons_self
    · exact List.mem_cons_of_mem _ (ih hc)

theorem best_some {ps : List Peer} (h : ps ≠ []) : ∃ b, best ps = some b := by
  cases ps with
  | nil => exact absurd rfl h
  | cons a as => rcases best_cons a as with ⟨e, _⟩ | ⟨c, e, _⟩ <;> exact ⟨_, e⟩

theorem best_ge {ps : List Peer} {b : Peer} (h : best ps = some b) : ∀ x ∈ ps, x.claim ≤ b.claim := by
  induction ps generalizing b with
  | nil => exact fun x hx => absurd hx List.not_mem_nil
  | cons a as ih =>
    intro x hx
    rcases best_cons a as with ⟨e, hle⟩ | ⟨c, e, hc, hlt⟩ <;> rw [e] at h <;> cases h <;>
      rcases List.mem_cons.mp hx with rfl | hx
    · exact Nat.le_refl _
    · obtain ⟨c, hc⟩ := best_some (List.ne_nil_of_mem hx)
      exact Nat.le_trans (ih hc x hx) (hle c hc)
    · exact Nat.le_of_lt hlt
    · exact ih hc x hx

theorem startSync_cases (s : State) :
    startSync s = s ∨
    ∃ b, s.sync = none ∧ best (candidates s) = some b ∧
      startSync s = { s with sync := some b, asked := b :: s.asked } := by
  rw [startSync]
  cases hs : s.sync with
  | some q => exact .inl rfl
  | none =>
    dsimp only
    cases hb : best (candidates s) with
    | none => exact .inl rfl
    | some b => exact .inr ⟨b, rfl, rfl, rfl⟩

theorem startSync_of_best {s : State} {b : Peer} (hs : s.sync = none) (hb : best (candidates s) = some b) :
    startSync s = { s with sync := some b, asked := b :: s.asked } := by
  rw [startSync, hs]; dsimp only; rw [hb]

theorem WF_startSync (s : State) (h : WF s) : WF (startSync s) := by
  rcases startSync_cases s with e | ⟨b, _, _, e⟩ <;> rw [e]
  · exact h
  · exact fun q hq _ => Option.some.inj hq ▸ List.mem_cons_self

theorem startSync_asked_mono (s : State) (x : Peer) (h : x ∈ s.asked) : x ∈ (startSync s).asked := by
  rcases startSync_cases s with e | ⟨b, _, _, e⟩ <;> rw [e]
  · exact h
  · exact List.mem_cons_of_mem _ h

theorem mem_filter_ne {p q : Peer} {l : List Peer} (hq : q ∈ l) (hne : q ≠ p) : q ∈ l.filter (· ≠ p) :=
  List.mem_filter.mpr ⟨hq, decide_eq_true hne⟩

theorem WF_ask {s : State} (h : WF s) (p : Peer) : WF { s with asked := p :: s.asked } :=
  fun q hq hlt => List.mem_cons_of_mem _ (h q hq hlt)

theorem WF_step (s : State) (e : Ev) (h : WF s) : WF (step s e) := by
  cases e with
  | newPeer p =>
    rw [step]; split
    · exact h
    · apply WF_startSync; dsimp only; split
      · exact WF_ask (s := { s with peers := s.peers ++ [p] }) h p
      · exact h
  | donePeer p =>
    rw [step]; dsimp only; split
    · exact WF_startSync _ fun q hq _ => nomatch hq
    · next hs => exact fun q hq hlt => mem_filter_ne (h q hq hlt) fun he => hs (he ▸ hq)
  | inv p k =>
    rw [step]; split
    · exact WF_ask h p
    · exact h
  | headers p k =>
    rw [step]; split
    · next hc =>
      dsimp only; split
      · next hcur =>
        -- current: the sync peer is not above the new tip
        intro q hq hlt
        have hq' : s.sync = some q := hq
        simp only [current, hq', Bool.and_eq_true, decide_eq_true_eq] at hcur
        exact absurd hcur.2 (Nat.not_le_of_lt hlt)
      · intro q hq hlt
        have hqa := h q hq (Nat.lt_trans hc.2 hlt)
        by_cases hqp : q = p
        · rw [hqp]; exact List.mem_cons_self
        · exact List.mem_cons_of_mem _ (mem_filter_ne hqa hqp)
    · exact h
  | age => exact h

theorem WF_run (evs : List Ev) (s : State) (h : WF s) : WF (run s evs) := by
  induction evs generalizing s with
  | nil => exact h
  | cons e es ih => exact ih _ (WF_step s e h)

theorem WF_init : WF init := fun _ hq _ => nomatch hq

/-- with a fresh tip and no request outstanding the client is current: a sync peer that is ahead would have
been asked -/
theorem current_of_idle {s : State} (hwf : WF s) (hq : s.asked = []) (hf : s.fresh = true) : current s = true := by
  rw [current, hf, Bool.true_and]
  cases hs : s.sync with
  | none => rfl
  | some q =>
    refine decide_eq_true (Nat.le_of_not_lt fun hlt => ?_)
    have := hwf q hs hlt
    rw [hq] at this
    exact absurd this List.not_mem_nil

end Neutrino.Ask
