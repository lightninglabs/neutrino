/-
The read arithmetic of the header stores as the CODE defines it (translated from headerfs/store.go
and file.go on every run, Gen/TransStore.lean): `FetchHeaderAncestors` of both stores against the model's
`Store.fetchAncestors` / `readRange`, and the offset / length `readHeadersFromFile` asks the file for.
-/
import Neutrino.Gen.TransStore
import Neutrino.Model.StoreReads
namespace Neutrino.Store
open Neutrino.Gen.TransStore Neutrino.GoInt

/-- the index lookup `heightFromHash` of a durable state, as the translated code sees it -/
def heightFn (d : Durable) (id : Atom) : Nat × Bool :=
  match d.db.height? id with
  | some h => (h, false)
  | none => (0, true)

/-- `readHeaderRange(lo, hi)` over a file of the durable state, entries decoded by `mk` -/
def rangeFn {α} (f : FileSt) (mk : Nat → α) (lo hi : Nat) : List α × Bool :=
  match readRange f lo hi with
  | some hs => (hs.map mk, false)
  | none => ([], true)

/-- a range read asked for a start above its end fails -/
theorem readRange_wrapped (f : FileSt) (h n : Nat) (hn32 : n < 2 ^ 32) : readRange f (h + 2 ^ 32 - n) h = none := by
  have hw : ¬ (h < f.ents.length ∧ h + 2 ^ 32 - n ≤ h) := fun h' =>
    Nat.not_le.mpr (Nat.lt_add_of_pos_right (Nat.sub_pos_of_lt hn32)) (Nat.add_sub_assoc (Nat.le_of_lt hn32) h ▸ h'.2)
  rw [readRange, if_neg hw, ite_self]

/-- **`blockHeaderStore.FetchHeaderAncestors` is the model's `fetchAncestors`** - including the
case of more ancestors asked for than exist, where the code's `endHeight - numHeaders` wraps around
(uint32) and the range read is asked for a start above its end. -/
theorem trans_fetchAncestors_block (d : Durable) (mk : Nat → T_wire_BlockHeader) (n id : Nat) (hn : n < 2 ^ 32) :
    blockHeaderStore_FetchHeaderAncestors n id (heightFn d) (rangeFn d.bf mk)
      = (match fetchAncestors d n id with
         | some (s, hs) => (hs.map mk, s, false)
         | none => ([], 0, true)) := by
  unfold blockHeaderStore_FetchHeaderAncestors fetchAncestors heightFn
  cases d.db.height? id with
  | none => rfl
  | some h =>
    dsimp only
    rw [if_pos rfl]
    by_cases hgt : n > h
    · rw [if_pos hgt, usub_of_lt hgt (Nat.le_of_lt hn), rangeFn, readRange_wrapped d.bf h n hn]; rfl
    · rw [if_neg hgt, usub_of_le (Nat.le_of_not_gt hgt), rangeFn]
      cases readRange d.bf (h - n) h <;> rfl

/-- the same for the filter-header store (entries are hashes: atoms), over the filter file -/
theorem trans_fetchAncestors_filter (d : Durable) (n id : Nat) (hn : n < 2 ^ 32) :
    filterHeaderStore_FetchHeaderAncestors n id (heightFn d) (rangeFn d.ff (fun x => x))
      = (match d.db.height? id with
         | none => ([], 0, true)
         | some h => if n > h then ([], 0, true)
                     else match readRange d.ff (h - n) h with
                          | some hs => (hs, h - n, false)
                          | none => ([], 0, true)) := by
  unfold filterHeaderStore_FetchHeaderAncestors heightFn
  cases d.db.height? id with
  | none => rfl
  | some h =>
    dsimp only
    rw [if_pos rfl]
    by_cases hgt : n > h
    · rw [if_pos hgt, usub_of_lt hgt (Nat.le_of_lt hn), rangeFn, readRange_wrapped d.ff h n hn]; rfl
    · rw [if_neg hgt, usub_of_le (Nat.le_of_not_gt hgt), rangeFn]
      cases readRange d.ff (h - n) h with
      | none => rfl
      | some hs => exact congrArg (·, h - n, false) (List.map_id' hs)

/-- **What `readHeadersFromFile` asks the file for**: for a range `lo ≤ hi` of entries of `sz`
bytes that fits the code's `uint32` length arithmetic, exactly `(hi - lo + 1) * sz` bytes at byte
offset `lo * sz` - the bytes of entries `lo … hi`, nothing before, nothing after - and the result
is the reader over what `ReadAt` left in the buffer, or `ReadAt`'s error. -/
theorem trans_readHeadersFromFile (f : Atom) (sz lo hi : Nat) (f1 : Atom → List Nat → Int → Int × Bool)
    (f2 : Atom → List Nat → Int → List Nat) (f3 : List Nat → Atom)
    (hle : lo ≤ hi) (hlen : sz * (hi - lo + 1) < 2 ^ 32) (hoff : lo * sz < 2 ^ 64) (hsz : 0 < sz) :
    readHeadersFromFile f sz lo hi f1 f2 f3
      = (if (f1 f (List.replicate ((hi - lo + 1) * sz) 0) ((lo * sz : Nat) : Int)).2 = false
         then (f3 (f2 f (List.replicate ((hi - lo + 1) * sz) 0) ((lo * sz : Nat) : Int)), false)
         else (0, true)) := by
  have hcnt : hi - lo + 1 < 2 ^ 32 := Nat.lt_of_le_of_lt (Nat.le_mul_of_pos_left _ hsz) hlen
  unfold readHeadersFromFile
  dsimp only
  rw [usub_of_le hle, uadd_of_lt hcnt, umul_of_lt hlen, umul_of_lt hoff, Nat.mul_comm sz,
    show (default : Nat) = 0 from rfl]
  cases (f1 f (List.replicate ((hi - lo + 1) * sz) 0) ((lo * sz : Nat) : Int)).2 <;> rfl

/-- **`trimPartialHeader` as the code spells it**: for a file of `n` whole entries of `z` bytes
followed by `junk < z` bytes of a torn append, nothing is done when `junk = 0`, and otherwise the file
is truncated to exactly the `n` whole entries (`n * z` bytes) - never into an entry, never keeping a
torn byte.  `Stat` / `Size` failures are passed on. -/
theorem trans_trimPartialHeader (size : Atom → Int) (fi : Atom) (trunc : Int → Bool) (n junk z : Nat)
    (hz : junk < z) (hsize : size fi = ((n * z + junk : Nat) : Int)) :
    trimPartialHeader size (fi, false) trunc ((z : Int), false)
      = (if junk = 0 then false else trunc ((n * z : Nat) : Int)) := by
  have hmod : Int.tmod ((n * z + junk : Nat) : Int) (z : Int) = (junk : Int) :=
    congrArg Int.ofNat (by rw [Nat.add_comm, Nat.add_mul_mod_self_right, Nat.mod_eq_of_lt hz] : (n * z + junk) % z = junk)
  unfold trimPartialHeader
  dsimp only
  rw [if_pos rfl, if_pos rfl, hsize, hmod, Int.natCast_add, Int.add_sub_cancel]
  by_cases hj : junk = 0
  · rw [if_pos hj, if_pos (by rw [hj]; rfl)]
  · rw [if_neg hj, if_neg (fun h => hj (Int.natCast_eq_zero.mp h))]

theorem trans_trimPartialHeader_err (size : Atom → Int) (st : Atom × Bool) (trunc : Int → Bool) (sz : Int × Bool)
    (h : st.2 = true ∨ sz.2 = true) : trimPartialHeader size st trunc sz = true := by
  obtain ⟨a, b⟩ := st
  obtain ⟨z, e⟩ := sz
  rcases h with h | h <;> cases h
  · rfl
  · cases b <;> rfl

/-- **`resetInterruptedInit` as the code spells it**: the file is emptied (and 0 returned) exactly
when it holds nothing but one entry and the index has no chain tip; in every other case the size is
returned unchanged and the file is not touched; lookup failures are passed on. -/
theorem trans_resetInterruptedInit (fileSize : Int) (trunc : Int → Bool) (hasTip : Bool) (z : Int) :
    resetInterruptedInit fileSize trunc (hasTip, false) (z, false)
      = (if fileSize = z ∧ hasTip = false then (0, trunc 0) else (fileSize, false)) := by
  unfold resetInterruptedInit
  simp only [↓reduceIte]
  by_cases h1 : fileSize = z
  · cases hasTip
    · cases trunc 0 <;> simp [h1]
    · simp [h1]
  · simp [h1]

end Neutrino.Store
