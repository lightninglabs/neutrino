/-
The block validator as it walks the file (`blockHeadersImportSourceValidator.Validate`
over `BatchIterator`): batch by batch, `ValidateBatch` inside a batch and
`ValidatePair(lastHeader, batch[0])` across two batches — and the proof that this
walk computes exactly the closed form `validateBlocks` the model of `Import` uses.
-/
import Neutrino.Model.Import
namespace Neutrino.Import

/-- `ValidatePair(prev, cur)`: PrevBlock link, contextual check and sanity of `cur` -/
def pairOk (prev cur : BHdr) : Bool := cur.prev == prev.id && cur.valid

/-- `ValidateBatch`: a batch of one header is `ValidateSingle`d; a longer one has
every header from the second on pair-checked against its predecessor (the batch's
first header is NOT sanity-checked here) -/
def validateBatch : List BHdr → Bool
  | [h] => h.valid
  | l => pairsOk l

/-- `Validate`: walk the body in batches of `bs`; `last` is the previous batch's last header -/
def validateWalk (bs : Nat) : Nat → Option BHdr → List BHdr → Bool
  | 0, _, _ => true
  | fuel + 1, last, rest =>
    if rest.isEmpty then true
    else
      let batch := rest.take bs
      validateBatch batch &&
      (match last, batch.head? with
       | some l, some h => pairOk l h
       | _, _ => true) &&
      validateWalk bs fuel batch.getLast? (rest.drop bs)

theorem pairsOk_cons_cons (a b : BHdr) (r : List BHdr) : pairsOk (a :: b :: r) = (pairOk a b && pairsOk (b :: r)) := rfl

/-- splitting the pair checks of `batch ++ r` at the batch boundary -/
theorem pairsOk_append : ∀ (x : BHdr) (t r : List BHdr),
    pairsOk (x :: t ++ r) = (pairsOk (x :: t) && pairsOk (((x :: t).getLast (by simp)) :: r))
  | x, [], r => (Bool.true_and _).symm
  | x, y :: t, r => by
    have ih := pairsOk_append y t r
    simp only [List.cons_append] at ih ⊢
    rw [pairsOk_cons_cons, pairsOk_cons_cons, ih, List.getLast_cons_cons, Bool.and_assoc]

theorem validateBatch_eq (x : BHdr) (t : List BHdr) :
    validateBatch (x :: t) = ((if (x :: t).length = 1 then x.valid else true) && pairsOk (x :: t)) := by
  cases t with
  | nil => simp [validateBatch, pairsOk]
  | cons y t => simp [validateBatch]

/-- a pair check with the previous batch's last header subsumes the single-header rule -/
theorem and_pair_rule (c : Prop) [Decidable c] (v e p q : Bool) :
    (((if c then v else true) && p) && (e && v) && q) = ((e && v) && (p && q)) := by
  cases v <;> cases e <;> cases p <;> simp

/-- the walk, for any previous header: all pair checks of `last :: rest` (or, at
the start of the file, the first-batch rule plus the pair checks of `rest`) -/
theorem validateWalk_spec (bs : Nat) (hbs : bs ≥ 1) : ∀ (fuel : Nat) (last : Option BHdr) (rest : List BHdr),
    fuel ≥ rest.length →
    validateWalk bs fuel last rest =
      (match last with
       | some l => pairsOk (l :: rest)
       | none => (if min bs rest.length = 1 then (rest.head?.map (·.valid)).getD true else true) && pairsOk rest) := by
  obtain ⟨n, rfl⟩ : ∃ n, bs = n + 1 := ⟨bs - 1, (Nat.sub_add_cancel hbs).symm⟩
  intro fuel
  induction fuel with
  | zero =>
    intro last rest h
    rw [List.eq_nil_of_length_eq_zero (Nat.le_zero.mp h)]
    cases last <;> rfl
  | succ fuel ih =>
    intro last rest h
    cases rest with
    | nil => cases last <;> rfl
    | cons x t =>
      -- the batch is `x :: t.take n`, what follows it `t.drop n`
      unfold validateWalk
      simp only [List.isEmpty_cons, Bool.false_eq_true, ↓reduceIte, List.take_succ_cons, List.drop_succ_cons,
        List.head?_cons]
      rw [ih _ _ (Nat.le_trans (List.length_drop ▸ Nat.sub_le _ _) (Nat.le_of_succ_le_succ h)),
        List.getLast?_eq_some_getLast (List.cons_ne_nil x _), validateBatch_eq,
        show (x :: t.take n).length = min (n + 1) (x :: t).length by
          rw [List.length_cons, List.length_take, List.length_cons, Nat.add_min_add_right]]
      have happ := pairsOk_append x (t.take n) (t.drop n)
      rw [List.cons_append, List.take_append_drop] at happ
      cases last with
      | none =>
        simp only [Bool.and_true, Option.map_some, Option.getD_some]
        rw [happ, Bool.and_assoc]
      | some l =>
        simp only
        rw [pairsOk_cons_cons, happ, pairOk, and_pair_rule]

/-- **the validator's walk is the closed form used by the model** -/
theorem validateBlocks_eq_walk (body : List BHdr) (bs : Nat) (hbs : bs ≥ 1) :
    validateBlocks body bs = validateWalk bs body.length none body := by
  rw [validateWalk_spec bs hbs body.length none body (Nat.le_refl _)]
  rfl

/-- the pair checks hold exactly when every header of the list except the first passes
`ValidatePair` against its predecessor -/
theorem pairsOk_iff : ∀ (l : List BHdr),
    pairsOk l = true ↔ ∀ i a c, l[i]? = some a → l[i + 1]? = some c → pairOk a c = true
  | [] => ⟨fun _ _ _ _ h => (nomatch h), fun _ => rfl⟩
  | [_] => ⟨fun _ _ _ _ _ h => (nomatch h), fun _ => rfl⟩
  | x :: y :: rest => by
    rw [pairsOk_cons_cons, Bool.and_eq_true, pairsOk_iff (y :: rest)]
    constructor
    · rintro ⟨h0, hr⟩ i a c ha hc
      cases i with
      | zero => cases ha; cases hc; exact h0
      | succ i => exact hr i a c ha hc
    · exact fun h => ⟨h 0 x y rfl rfl, fun i a c ha hc => h (i + 1) a c ha hc⟩

theorem pairsOk_pair (l : List BHdr) (i : Nat) (a c : BHdr) (h : pairsOk l = true)
    (ha : l[i]? = some a) (hc : l[i + 1]? = some c) : pairOk a c = true :=
  (pairsOk_iff l).mp h i a c ha hc

theorem validated_pairs (body : List BHdr) (bs i : Nat) (a c : BHdr) (h : validateBlocks body bs = true)
    (ha : body[i]? = some a) (hc : body[i + 1]? = some c) : pairOk a c = true := by
  unfold validateBlocks at h
  simp only [Bool.and_eq_true] at h
  exact pairsOk_pair body i a c h.2 ha hc

/-- **The validated index range is exactly `1 .. len-1`** (heights
`(startHeight, endHeight]`): the validator accepts a body iff every index from 1
to the last passes `ValidatePair` against the index before it — none skipped,
whatever the batch size — plus the first-batch rule for index 0. -/
theorem validateBlocks_iff (body : List BHdr) (bs : Nat) :
    validateBlocks body bs = true ↔
      ((min bs body.length = 1 → (body.head?.map (·.valid)).getD true = true) ∧
       ∀ i a c, body[i]? = some a → body[i + 1]? = some c → pairOk a c = true) := by
  unfold validateBlocks
  rw [Bool.and_eq_true]
  constructor
  · rintro ⟨h1, h2⟩
    refine ⟨fun hm => ?_, fun i a c ha hc => pairsOk_pair body i a c h2 ha hc⟩
    simpa [hm] using h1
  · rintro ⟨h1, h2⟩
    refine ⟨?_, (pairsOk_iff body).mpr h2⟩
    by_cases hm : min bs body.length = 1
    · simpa [hm] using h1 hm
    · simp [hm]

end Neutrino.Import
