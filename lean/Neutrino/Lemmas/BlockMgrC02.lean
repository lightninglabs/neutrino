/- List lemmas and the case analysis behind C02's history-level theorems. -/
import Neutrino.Lemmas.BlockMgrShape
namespace Neutrino.BM

theorem commonLen_append_right (l e : List Nat) : commonLen l (l ++ e) = l.length := by
  induction l with
  | nil => cases e <;> rfl
  | cons a as ih => simp [commonLen, ih]

theorem commonLen_self (l : List Nat) : commonLen l l = l.length := by
  have := commonLen_append_right l []
  rwa [List.append_nil] at this

theorem commonLen_fork (A B C : List Nat) (x y : Nat) (h : y ≠ x) : commonLen (A ++ y :: B) (A ++ x :: C) = A.length := by
  induction A with
  | nil => simp [commonLen, h]
  | cons a as ih => simp [commonLen, ih]

theorem isPrefix_take (l : List Nat) (k : Nat) : isPrefix (l.take k) l = true := by
  induction l generalizing k with
  | nil => simp [isPrefix]
  | cons a as ih =>
    cases k with
    | zero => simp [isPrefix]
    | succ k => simp [isPrefix, ih]

theorem commonLen_take (a b : List Nat) : a.take (commonLen a b) = b.take (commonLen a b) := by
  induction a generalizing b with
  | nil => cases b <;> simp [commonLen]
  | cons x xs ih =>
    cases b with
    | nil => simp [commonLen]
    | cons y ys =>
      simp only [commonLen]
      by_cases h : x = y
      · simp [h, ih ys]
      · simp [h]

theorem sumWork_split (t : Tbl) (l : List Nat) (k : Nat) : sumWork t l = sumWork t (l.take k) + sumWork t (l.drop k) := by
  rw [← sumWork_append, List.take_append_drop]

theorem dropWhile_known (log pre : List Nat) (h : Nat) (suf : List Nat) (hp : ∀ x ∈ pre, x ∈ log) (hn : h ∉ log) :
    (pre ++ h :: suf).dropWhile (fun x => log.contains x) = h :: suf := by
  induction pre with
  | nil => simp [hn]
  | cons a as ih =>
    have ha : a ∈ log := hp a (List.mem_cons_self ..)
    have hc : log.contains a = true := by simp [ha]
    simp only [List.cons_append, List.dropWhile_cons, hc, ↓reduceIte]
    exact ih (fun x hx => hp x (List.mem_cons_of_mem _ hx))

theorem isPrefix_refl_take (l : List Nat) (d : Nat) : isPrefix (l.take d) l = true := isPrefix_take l d

/-- under the invariant the known-work walk of the reorg arm is the work of the displaced suffix -/
theorem known_is_displaced (c : Cfg) (s : State) (inv : Inv c s) (bh : Nat) (hbh : bh < tipHeight s.log) :
    knownWalk c.tbl s.log (tipHeight s.log - bh) s.hl (tipId s.log) 0 = sumWork c.tbl (s.log.drop (bh + 1)) := by
  obtain ⟨m, hm, hhl⟩ := inv.anch
  have := knownWalk_good c.tbl s.log inv.good (fun x hx => hx) (bh + 1) m (tipId s.log) 0
    (Nat.le_trans hbh (Nat.sub_le ..)) (fun h0 => absurd h0 (Nat.ne_of_gt hm))
  rw [tipHeight, Nat.sub_sub, Nat.add_comm 1, hhl, this, Nat.zero_add]

/-- the checkpoint a mismatch cuts back to is at or below every admissible fork point -/
theorem prevcp_below_fork (c : Cfg) (ok : CpsOk c.cps) (s : State) (inv : Inv c s) (cp : Cp) (hn : s.ncp = some cp) (bh : Nat)
    (hfloor : (findPrevCp c.cps (tipHeight s.log + 1)).height ≤ bh) :
    (findPrevCp c.cps cp.height).height ≤ bh := by
  have hnc := inv.ncp.symm.trans hn
  rcases (foldl_prev_spec cp.height c.cps ok.sorted ⟨0, 0⟩).1 with h | ⟨hm, hlt⟩
  · rw [findPrevCp, h]; exact Nat.zero_le _
  · refine floor_covers ok hfloor _ hm (Nat.le_of_not_lt fun h1 => ?_)
    exact absurd (findNextCp_least ok.sorted hnc _ hm h1).1 (Nat.not_le.mpr hlt)

/-- how stored headers get replaced: a checkpoint-failure rollback (the result is a prefix of
what was stored) or a reorganisation with all its guards. -/
def ReplaceShape (c : Cfg) (p : Nat) (s : State) (hs out : List Nat) : Prop :=
  isPrefix out s.log = true ∨
  ∃ bh h suf ext pre, bh + 1 < s.log.length ∧ commonLen s.log out = bh + 1 ∧ out = s.log.take (bh + 1) ++ h :: ext ∧
    isPrefix ext suf = true ∧ hs = pre ++ h :: suf ∧ (∀ x ∈ pre, x ∈ s.log) ∧ h ∉ s.log ∧
    (h :: suf).all c.tbl.valid = true ∧ floorAt c.cps (tipHeight s.log) ≤ bh ∧
    sumWork c.tbl (s.log.drop (bh + 1)) < sumWork c.tbl (h :: suf) ∧ (s.sync = some p ∨ synced c s = true) ∧
    (ext = suf ∨ (ext.length < suf.length ∧ ∃ cp ∈ c.cps, out.length = cp.height + 1 ∧ tipId out = cp.id))

theorem replace_shape (c : Cfg) (ok : CpsOk c.cps) (hw : 1 ≤ c.win) (p : Nat) (s : State) (inv : Inv c s) (hs : List Nat)
    (hrem : s.log.drop (commonLen s.log (handleHeaders c s p hs).1.log) ≠ []) :
    ReplaceShape c p s hs (handleHeaders c s p hs).1.log := by
  have hout := (handle_shape c ok hw p s inv hs).2
  generalize (handleHeaders c s p hs).1.log = out at hout hrem
  -- something stored has gone, so the result does not extend the stored chain
  have hkeep : ∀ e, out ≠ s.log ++ e := fun e h1 => hrem (by rw [h1, commonLen_append_right, List.drop_length])
  have hsame : out ≠ s.log := fun h1 => hkeep [] (h1.trans (List.append_nil _).symm)
  rcases hout with h1 | ⟨pre, suf, he, hp, hc | ⟨h, suf, bh, rfl, hn, hbh, hd, hc⟩⟩
  · exact absurd h1 hsame
  · rcases hc with ⟨_, h1⟩ | h1 | ⟨d, cp, _, _, _, ⟨h1, _⟩ | h1⟩
    · exact absurd h1 hsame
    · exact absurd h1 (hkeep _)
    · exact absurd h1 (hkeep _)
    · exact Or.inl (h1 ▸ isPrefix_take _ _)
  · have spec := reorgDecision_spec c s p ⟨tipId s.log, tipHeight s.log⟩ h suf
    rw [hd] at spec
    obtain ⟨hlisten, -, -, -, hfloor, hval, hwork⟩ := spec
    dsimp only at hfloor hwork
    rw [known_is_displaced c s inv bh hbh] at hwork
    have hlen : bh + 1 < s.log.length := Nat.add_lt_of_lt_sub hbh
    have htl : (s.log.take (bh + 1)).length = bh + 1 := List.length_take.trans (Nat.min_eq_left (Nat.le_of_lt hlen))
    -- the first displaced header differs from `h`, so the two chains part right after the fork point
    have hk : ∀ ext, commonLen s.log (s.log.take (bh + 1) ++ h :: ext) = bh + 1 := fun ext => by
      cases hdrop : s.log.drop (bh + 1) with
      | nil => exact absurd (List.drop_eq_nil_iff.mp hdrop) (Nat.not_le.mpr hlen)
      | cons y B =>
        have hy : y ≠ h := fun e => hn (e ▸ List.mem_of_mem_drop (hdrop ▸ List.mem_cons_self))
        have := commonLen_fork (s.log.take (bh + 1)) B ext h y hy
        rwa [← hdrop, List.take_append_drop, htl] at this
    have hshape : ∀ ext, out = s.log.take (bh + 1) ++ [h] ++ ext → isPrefix ext suf = true →
        (ext = suf ∨ (ext.length < suf.length ∧ ∃ cp ∈ c.cps, out.length = cp.height + 1 ∧ tipId out = cp.id)) →
        ReplaceShape c p s hs out := fun ext h1 hpx hcase => by
      have h2 : out = s.log.take (bh + 1) ++ h :: ext := h1.trans (List.append_cons ..).symm
      exact Or.inr ⟨bh, h, suf, ext, pre, hlen, h2 ▸ hk ext, h2, hpx, he, hp, hn, hval, hfloor, hwork, hlisten, hcase⟩
    rcases hc with ⟨hinv, _⟩ | h1 | ⟨d, cp, hdl, hncp, hlenq, ⟨h1, htip⟩ | h1⟩
    · rw [(all_valid_cons hval).2] at hinv; cases hinv
    · exact hshape suf h1 (by have := isPrefix_take suf suf.length; rwa [List.take_length] at this) (Or.inl rfl)
    · refine hshape (suf.take d) h1 (isPrefix_take _ _) ?_
      rcases Nat.lt_or_ge d suf.length with hlt | hge
      · refine Or.inr ⟨by rw [List.length_take, Nat.min_eq_left hdl]; exact hlt, cp,
          (findNextCp_mem (inv.ncp.symm.trans hncp)).1, ?_, htip⟩
        rw [h1, List.length_append, List.length_take, Nat.min_eq_left hdl]; exact hlenq
      · exact Or.inl (List.take_of_length_le hge)
    · have hpp := prevcp_below_fork c ok s inv cp hncp bh hfloor
      rw [h1, List.take_append_of_le_length (by rw [htl]; exact Nat.succ_le_succ hpp), List.take_take,
        Nat.min_eq_left (Nat.succ_le_succ hpp)]
      exact Or.inl (isPrefix_take _ _)

end Neutrino.BM
