import Neutrino.Lemmas.Lru
namespace Neutrino.Lru

def abs (s : State) : Spec := { cap := s.cap, items := s.ll, bad := s.bad }

theorem find_key_of_mem {ll : List Entry} {e : Entry} (hnd : (ll.map (·.key)).Nodup) (he : e ∈ ll) :
    ll.find? (·.key == e.key) = some e := by
  cases hf : ll.find? (·.key == e.key) with
  | none => simpa using List.find?_eq_none.1 hf e he
  | some e' =>
    exact congrArg some (key_unique hnd (List.mem_of_find?_eq_some hf) he (by simpa using List.find?_some hf))

theorem idxLoad_eq_find {cap ll size idx} (h : LInv cap ll size idx) (k : Nat) :
    idxLoad idx k = ll.find? (·.key == k) := by
  cases hl : idxLoad idx k with
  | some el =>
    obtain ⟨hm, rfl⟩ := (h.idxIff k el).mp (idxLoad_some hl)
    exact (find_key_of_mem h.nodupLL hm).symm
  | none =>
    refine (List.find?_eq_none.mpr fun e he hk => ?_).symm
    exact idxLoad_none hl e ((h.idxIff k e).mpr ⟨he, by simpa using hk⟩)

theorem evict_refines {cap : Nat} {bad : List Nat} {needed : Nat} {ll : List Entry} {size : Nat}
    {idx : List (Nat × Entry)} {ev : Bool} (h : LInv cap ll size idx) (hn : needed ≤ cap)
    {r : List Entry × Nat × List (Nat × Entry) × Bool × Bool} (hr : evictLoop cap bad needed ll size idx ev = r) :
    Spec.evict cap bad needed ll ev = (r.1, r.2.2.2.1, r.2.2.2.2) := by
  subst hr
  fun_induction evictLoop cap bad needed ll size idx ev with
  | case1 size idx ev =>
    cases h.sizeEq
    simp [Spec.evict, sub64, hn, Nat.not_lt.2 hn]
  | case2 b rest size idx ev hlt hsz =>
    rw [Spec.evict, ← h.sizeEq, if_pos (show cap - size < needed from hlt), if_pos (sizeOf?_none hsz)]
  | case3 b rest size idx ev hlt es hsz ih =>
    obtain ⟨rfl, hb⟩ := sizeOf?_some hsz
    rw [Spec.evict, ← h.sizeEq, if_pos (show cap - size < needed from hlt), if_neg hb, ih (linv_pop h)]
  | case4 b rest size idx ev hlt =>
    rw [Spec.evict, ← h.sizeEq, if_neg (show ¬cap - size < needed from hlt)]

/-- the specification takes the step the implementation takes -/
theorem spec_step_abs (s : State) (op : Op) (h : Inv s) :
    (abs s).step op = (abs (step s op).1, (step s op).2) := by
  have hl := h.linv
  have hf : ∀ k, (abs s).find k = idxLoad s.idx k := fun k => (idxLoad_eq_find hl k).symm
  fun_cases step s op
  -- poison, heal, a held mutex
  · rfl
  · rfl
  · exact absurd ‹s.locked = true› (by simp [h.unlocked])
  -- put refused: value without a size, value larger than the cache, resident entry without a size
  · simp only [Spec.step, abs, ‹_ ∈ s.bad›, ↓reduceIte]
  · simp only [Spec.step, abs, ‹_ ∉ s.bad›, ‹_ > s.cap›, ↓reduceIte]
  · rw [Spec.step, hf, ‹idxLoad s.idx _ = _›]
    simp only [abs, ‹_ ∉ s.bad›, ‹¬_ > s.cap›, sizeOf?_none ‹_›, ↓reduceIte]
  -- put over a resident key, the eviction succeeding / failing
  · obtain ⟨rfl, hbe⟩ := sizeOf?_some ‹_›
    have he := evict_refines (linv_remove hl (idxLoad_some ‹_›)).1 (Nat.le_of_not_lt ‹_›) ‹_›
    rw [Spec.step, hf, ‹idxLoad s.idx _ = _›]
    simp only [abs, *, ↓reduceIte]
    rfl
  · obtain ⟨rfl, hbe⟩ := sizeOf?_some ‹_›
    have he := evict_refines (linv_remove hl (idxLoad_some ‹_›)).1 (Nat.le_of_not_lt ‹_›) ‹_›
    rw [Spec.step, hf, ‹idxLoad s.idx _ = _›]
    simp only [abs, *, ↓reduceIte, Bool.false_eq_true]
  -- put of a new key, the same
  · have he := evict_refines hl (Nat.le_of_not_lt ‹_›) ‹_›
    rw [Spec.step, hf, ‹idxLoad s.idx _ = _›]
    simp only [abs, *, ↓reduceIte]
    rfl
  · have he := evict_refines hl (Nat.le_of_not_lt ‹_›) ‹_›
    rw [Spec.step, hf, ‹idxLoad s.idx _ = _›]
    simp only [abs, *, ↓reduceIte, Bool.false_eq_true]
  -- get
  · rw [Spec.step, hf, ‹idxLoad s.idx _ = _›]
  · rw [Spec.step, hf, ‹idxLoad s.idx _ = _›]; rfl
  -- del
  · rw [Spec.step, hf, ‹idxLoad s.idx _ = _›]
  · rw [Spec.step, hf, ‹idxLoad s.idx _ = _›]
    simp only [abs, sizeOf?_none ‹_›, ↓reduceIte]
  · obtain ⟨rfl, hbe⟩ := sizeOf?_some ‹_›
    rw [Spec.step, hf, ‹idxLoad s.idx _ = _›]
    simp only [abs, hbe, ↓reduceIte]
  -- no operation is left
  · rename_i _ hp hh hput hget hdel
    cases op
    · exact (hput _ _ _ rfl).elim
    · exact (hget _ rfl).elim
    · exact (hdel _ rfl).elim
    · exact (hp _ rfl).elim
    · exact (hh _ rfl).elim

theorem refines (s : State) (op : Op) (h : Inv s) :
    (step s op).2 = ((abs s).step op).2 ∧ abs (step s op).1 = ((abs s).step op).1 := by
  rw [spec_step_abs s op h]
  exact ⟨rfl, rfl⟩

theorem refines_run (s : State) (ops : List Op) (h : Inv s) :
    abs (run s ops) = (abs s).run ops := by
  induction ops generalizing s with
  | nil => rfl
  | cons o os ih =>
    simp only [run, Spec.run]
    rw [ih _ (inv_step s o h), (refines s o h).2]

end Neutrino.Lru
