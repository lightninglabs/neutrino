/-
The exact-answer invariant for C10: when duplicate requests for an outpoint all name the same start height, the
initial report stored for an entry is the one of every member's start block, so unspent answers are the fate.
-/
import Neutrino.Lemmas.UtxoPerm
namespace Neutrino.Utxo

def Entered (w : World) (init : List Req) (q : Req) : Prop := ∃ k, q ∈ init ++ arrived w k

theorem arrived_mono (w : World) (q : Req) (k : Nat) (hq : q ∈ arrived w k) :
    ∀ j, q ∈ arrived w (k + j)
  | 0 => hq
  | j + 1 => by
    show q ∈ arrived w (k + j) ++ w.arrive (k + j + 1)
    exact List.mem_append_left _ (arrived_mono w q k hq j)

theorem Entered.mono {w : World} {init : List Req} {q : Req} {k : Nat} (hq : q ∈ init ++ arrived w k)
    (k' : Nat) (hk : k ≤ k') : q ∈ init ++ arrived w k' := by
  obtain ⟨j, rfl⟩ := Nat.le.dest hk
  exact (List.mem_append.1 hq).elim (List.mem_append_left _) fun h => List.mem_append_right _ (arrived_mono w q k h j)

theorem Entered.sameBirth {w : World} {init : List Req} (hsb : ∀ k, SameBirth (init ++ arrived w k))
    {a b : Req} (ha : Entered w init a) (hb : Entered w init b) (hop : a.op = b.op) : a.birth = b.birth := by
  obtain ⟨ka, ha⟩ := ha
  obtain ⟨kb, hb⟩ := hb
  exact hsb (max ka kb) a (Entered.mono ha _ (Nat.le_max_left _ _)) b (Entered.mono hb _ (Nat.le_max_right _ _)) hop

theorem Cons.entered_pq {w : World} {init : List Req} {st : St} (hc : Cons w init st) {q : Req}
    (hq : q ∈ st.pq) : Entered w init q :=
  ⟨st.k, hc.perm.subset (mem_holds_pq hq)⟩

theorem Cons.entered_newAt {w : World} {init : List Req} {st : St} (hc : Cons w init st) {h : Nat} {q : Req}
    (hq : q ∈ newAt w h st) : Entered w init q := by
  simp only [newAt, List.mem_filter, List.mem_append] at hq
  rcases hq.1 with h1 | h1
  · exact hc.entered_pq h1
  · exact ⟨st.k + 1, List.mem_append_right _ (List.mem_append_right _ h1)⟩

def OutX (c : Chain) (out : List Deliv) : Prop := ∀ d ∈ out, delivExact c d

theorem OutX.append {c : Chain} {a b : List Deliv} (ha : OutX c a) (hb : OutX c b) : OutX c (a ++ b) :=
  List.forall_mem_append.2 ⟨ha, hb⟩

theorem mergeInit_self (x : Report) : mergeInit x x = x := by
  unfold mergeInit; split <;> rfl

def InitX (w : World) (init : List Req) (e : Entry) : Prop :=
  e.reqs ≠ [] ∧ ∀ q ∈ e.reqs, Entered w init q ∧ e.init = initialAt w.chain q.birth e.op

theorem answers_x (w : World) (init : List Req) (hsb : ∀ k, SameBirth (init ++ arrived w k)) :
    Answers w (InitX w init) (delivExact w.chain) (Entered w init) where
  exact _ h := h
  fresh r hr := ⟨by simp, fun q hq => by rw [List.mem_singleton.1 hq]; exact ⟨hr, rfl⟩⟩
  extend _ e r hr hop hs he := by
    -- some member is already there: it has the same start height as `r`, so the report does not change
    obtain ⟨q0, hq0⟩ := List.exists_mem_of_ne_nil _ he.1
    have hb : q0.birth = r.birth := Entered.sameBirth hsb (he.2 q0 hq0).1 hr (by rw [(hs q0 hq0).1, hop])
    have hinit : e.init = initialAt w.chain r.birth e.op := by rw [(he.2 q0 hq0).2, hb]
    rw [← hop, ← hinit, mergeInit_self]
    refine ⟨by simp, fun q hq => ?_⟩
    rcases List.mem_append.1 hq with hq | hq
    · exact he.2 q hq
    · rw [List.mem_singleton.1 hq]; exact ⟨hr, hinit⟩
  unspent u e hs he q hq := by
    have hq' := hs q hq
    simp only [delivExact, answerExact, fate]
    rw [hq'.1, firstSpendFrom_none' w.chain e.op q.birth u hq'.2.1 hq'.2.2]
    exact (he.2 q hq).2

theorem run_x (w : World) (hf : FilterSound w) (sf mf : Nat) (init : List Req)
    (hsb : ∀ k, SameBirth (init ++ arrived w k)) : OutX w.chain (run w sf mf init).2.out :=
  run_answers (answers_x w init hsb) (cons_invariant w init) (fun _ _ hc _ hq => hc.entered_newAt hq) hf sf mf init
    (init_cons w init)

end Neutrino.Utxo
