/-
Lemmas for `C12_worker_reports`: the accounting invariant of the worker loop
(accepted = reported ++ job in hand ++ job lost to quit) and its preservation.
-/
import Neutrino.Model.Worker
namespace Neutrino.Wrk
open Neutrino.Disp (Err)

structure WInv (s : State) : Prop where
  nodrop : s.dropped = []
  acct   : s.accepted = s.reported.map (·.1) ++ inflight s ++ s.lost
  lostq  : s.lost ≠ [] → s.phase = .exited true
  lost1  : s.lost.length ≤ 1

theorem winv_init : WInv init := ⟨rfl, rfl, fun h => absurd rfl h, Nat.zero_le _⟩

theorem lost_nil_of_not_quit {s : State} (h : WInv s) (hp : s.phase ≠ .exited true) : s.lost = [] :=
  Classical.byContradiction fun hl => hp (h.lostq hl)

/-- nothing lost or dropped: the accounting equation is all there is to show -/
theorem winv_of_acct {ph : Phase} {acc : List Nat} {rep : List (Nat × Err)} {snt : List Nat}
    (ha : acc = rep.map (·.1) ++ inflight ⟨ph, acc, rep, snt, [], []⟩ ++ []) : WInv ⟨ph, acc, rep, snt, [], []⟩ :=
  ⟨rfl, ha, fun c => absurd rfl c, Nat.zero_le _⟩

/-- `quit` seen with job `j` in hand -/
theorem winv_lose {acc : List Nat} {rep : List (Nat × Err)} {snt : List Nat} {j : Nat}
    (ha : acc = rep.map (·.1) ++ [j] ++ []) : WInv ⟨.exited true, acc, rep, snt, [j], []⟩ :=
  ⟨rfl, show acc = rep.map (·.1) ++ [] ++ [j] by rw [ha]; simp only [List.append_nil], fun _ => rfl, Nat.le_refl _⟩

/-- With the arms as in the source a step leaves the state alone, or changes the phase while the job in hand stays in
hand, or moves one job: accepted into the hand, from the hand to `reported`, from the hand to `lost`. -/
theorem winv_step (s : State) (ev : Ev) (h : WInv s) : WInv (step Arms.good s ev) := by
  obtain ⟨phase, acc, rep, snt, lost, drp⟩ := s
  by_cases hq : phase = .exited true
  · cases hq; exact h
  cases lost_nil_of_not_quit h hq
  cases h.nodrop
  have ha := h.acct
  cases phase with
  | exited q => exact h
  | idle =>
    replace ha : acc = rep.map (·.1) ++ [] ++ [] := ha
    cases ev with
    | job j pre =>
      have ha : acc ++ [j] = rep.map (·.1) ++ [j] ++ [] := by rw [ha]; simp only [List.append_nil]
      cases pre <;> exact winv_of_acct ha
    | disconnect => exact winv_of_acct ha
    | quit => exact winv_of_acct ha
    | _ => exact h
  | waiting j sent =>
    replace ha : acc = rep.map (·.1) ++ [j] ++ [] := ha
    cases ev with
    | msg r =>
      cases r with
      | finished => exact winv_of_acct ha
      | _ => exact h
    | quit => exact winv_lose ha
    | job | deliver => exact h
    | _ => exact winv_of_acct ha
  | reporting j e =>
    replace ha : acc = rep.map (·.1) ++ [j] ++ [] := ha
    cases ev with
    | deliver =>
      have hd (ph : Phase) (hph : inflight ⟨ph, acc, rep ++ [(j, e)], snt, [], []⟩ = []) :
          acc = (rep ++ [(j, e)]).map (·.1) ++ inflight ⟨ph, acc, rep ++ [(j, e)], snt, [], []⟩ ++ [] := by
        rw [hph, ha, List.map_append]; simp only [List.append_nil, List.map_cons, List.map_nil]
      exact winv_of_acct (hd _ (by split <;> rfl))
    | quit => exact winv_lose ha
    | _ => exact h

theorem winv_run (s : State) (es : List Ev) (h : WInv s) : WInv (run Arms.good s es) := by
  induction es generalizing s with
  | nil => exact h
  | cons e es ih => exact ih _ (winv_step s e h)

end Neutrino.Wrk
