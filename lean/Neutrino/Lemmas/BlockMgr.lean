/-
Lemmas about the block-manager model: well-formed stored chains (`Good`), `idxOf`, `rollBack`,
and the equations of the parts of `handleHeadersMsg` (`finish`, `cpTest`, `doReorg`,
`reorgDecision`, the arms of `loop`) and of the quiet events of `step`.  The invariant proofs
rewrite with these and never unfold the handler themselves.
-/
import Neutrino.Spec.BlockMgr
namespace Neutrino.BM

/-- A well-formed stored chain, built from the right: genesis, then headers each
naming the current tip as parent and valid on their own branch. -/
inductive Good (t : Tbl) : List Nat → Prop
  | gen : Good t [0]
  | snoc {l : List Nat} {h : Nat} : Good t l → t.parent h = some (tipId l) → t.valid h = true → Good t (l ++ [h])

theorem Good.ne_nil {t : Tbl} {l : List Nat} (g : Good t l) : l ≠ [] := by
  cases g <;> simp

theorem tipId_append (l : List Nat) (h : Nat) : tipId (l ++ [h]) = h := by
  simp [tipId]

theorem tipHeight_append (l : List Nat) (h : Nat) : tipHeight (l ++ [h]) = l.length := by
  simp [tipHeight]

theorem Good.length_pos {t : Tbl} {l : List Nat} (g : Good t l) : 0 < l.length :=
  List.length_pos_iff.mpr g.ne_nil

theorem Good.tipHeight_succ {t : Tbl} {l : List Nat} (g : Good t l) : tipHeight l + 1 = l.length :=
  Nat.sub_add_cancel g.length_pos

theorem Good.take {t : Tbl} {l : List Nat} (g : Good t l) (n : Nat) : Good t (l.take (n + 1)) := by
  induction g with
  | gen => rw [List.take_succ_cons, List.take_nil]; exact Good.gen
  | @snoc l h g hp hv ih =>
    by_cases hn : n + 1 ≤ l.length
    · rw [List.take_append_of_le_length hn]; exact ih
    · rw [List.take_of_length_le (by rw [List.length_append]; exact Nat.lt_of_not_le hn)]; exact g.snoc hp hv

theorem Good.dropLast {t : Tbl} {l : List Nat} (g : Good t l) (h2 : 2 ≤ l.length) : Good t l.dropLast := by
  cases g with
  | gen => exact absurd h2 (by decide)
  | snoc g' _ _ => rw [List.dropLast_concat]; exact g'

theorem eq_snoc_tip {log : List Nat} (hne : log ≠ []) : log = log.dropLast ++ [tipId log] := by
  rw [tipId, List.getLast?_eq_some_getLast hne]
  exact (List.dropLast_concat_getLast hne).symm

theorem getLast?_eq_tipId {log : List Nat} (hne : log ≠ []) : log.getLast? = some (tipId log) := by
  rw [tipId, List.getLast?_eq_some_getLast hne]; rfl

theorem tipId_mem {log : List Nat} (hne : log ≠ []) : tipId log ∈ log :=
  List.mem_of_getLast? (getLast?_eq_tipId hne)

theorem getElem_tip {log : List Nat} (hne : log ≠ []) : log[tipHeight log]? = some (tipId log) := by
  rw [← getLast?_eq_tipId hne, List.getLast?_eq_getElem?]; rfl

theorem tipId_take {l : List Nat} {i x : Nat} (h : l[i]? = some x) : tipId (l.take (i + 1)) = x := by
  simp [tipId, List.getLast?_take, h]

theorem idxOf_some {l : List Nat} {x i : Nat} (h : idxOf l x = some i) : i < l.length ∧ l[i]? = some x := by
  induction l generalizing i with
  | nil => cases h
  | cons y ys ih =>
    rw [idxOf] at h
    by_cases hy : y = x
    · rw [if_pos hy] at h; cases h
      exact ⟨Nat.succ_pos _, congrArg some hy⟩
    · rw [if_neg hy] at h
      obtain ⟨j, hj, rfl⟩ := Option.map_eq_some_iff.mp h
      exact ⟨Nat.succ_lt_succ (ih hj).1, (ih hj).2⟩

theorem idxOf_isSome_iff (l : List Nat) (x : Nat) : (idxOf l x).isSome = true ↔ x ∈ l := by
  constructor
  · intro h
    obtain ⟨i, hi⟩ := Option.isSome_iff_exists.mp h
    exact List.mem_of_getElem? (idxOf_some hi).2
  · intro h
    induction l with
    | nil => cases h
    | cons y ys ih =>
      rw [idxOf]
      by_cases hy : y = x
      · rw [if_pos hy]; rfl
      · rw [if_neg hy, Option.isSome_map]
        exact ih ((List.mem_cons.mp h).resolve_left (fun e => hy e.symm))

theorem idxOf_none {l : List Nat} {x : Nat} (h : idxOf l x = none) : x ∉ l := fun hm => by
  have := (idxOf_isSome_iff l x).2 hm
  rw [h] at this; cases this

theorem rollBack_log (h : Nat) (fuel : Nat) (log : List Nat) (fst : Nat) (ft : Node) (out : List Ntfn)
    (hf : log.length ≤ fuel + (h + 1)) :
    (rollBack h fuel log fst ft out).1 = log.take (h + 1) := by
  induction fuel generalizing log fst ft out with
  | zero => rw [Nat.zero_add] at hf; exact (List.take_of_length_le (l := log) hf).symm
  | succ n ih =>
    rw [rollBack]
    by_cases hgt : tipHeight log > h
    · rw [if_pos hgt, ih]
      · rw [List.dropLast_eq_take, List.take_take, Nat.min_eq_left (show h + 1 ≤ log.length - 1 from hgt)]
      · rw [List.length_dropLast, Nat.sub_le_iff_le_add, Nat.add_right_comm]; exact hf
    · rw [if_neg hgt]
      exact (List.take_of_length_le (l := log) (Nat.sub_le_iff_le_add.mp (Nat.le_of_not_lt hgt))).symm

theorem rollBackTo_eq (s : State) (h : Nat) :
    ∃ f ft, (s.rollBackTo h).1 = { s with log := s.log.take (h + 1), fst := f, ftip := ft } := by
  have hl := rollBack_log h s.log.length s.log s.fst s.ftip [] (Nat.le_add_right _ _)
  rw [State.rollBackTo]
  generalize rollBack h s.log.length s.log s.fst s.ftip [] = r at hl
  obtain ⟨a, b, d, e⟩ := r
  cases hl
  exact ⟨b, d, rfl⟩

theorem rollBackTo_log (s : State) (h : Nat) : (s.rollBackTo h).1.log = s.log.take (h + 1) := by
  obtain ⟨f, ft, he⟩ := rollBackTo_eq s h
  rw [he]

/-- a write at the height the caller claims (or of nothing) only extends the log -/
theorem write_eq (s : State) {f : Nat} {ids : List Nat} (h : ids ≠ [] → f = s.log.length) :
    s.write f ids = { s with log := s.log ++ ids } := by
  rw [State.write]; split
  · next e => rw [e, List.append_nil]
  · next e => rw [h e, bne_self_eq_false, Bool.or_false]

theorem finish_eq (c : Cfg) (s : State) (l : Loc) (ntf : List Ntfn) (h : l.batch ≠ [] → l.batchFirst = s.log.length) :
    finish c s l ntf = ({ s with log := s.log ++ l.batch, htip := ⟨l.finalId, l.finalHeight⟩
                                 ncp := if l.recvCp then findNextCp c.cps l.finalHeight else s.ncp }, ntf) := by
  rw [finish, write_eq s h]; dsimp only; split <;> rfl

/-- whatever height the caller claims, a write touches nothing but the log and `corrupt` -/
theorem write_fields (s : State) (first : Nat) (ids : List Nat) :
    (s.write first ids).log = s.log ++ ids ∧ (s.write first ids).fst = s.fst ∧ (s.write first ids).ftip = s.ftip := by
  rw [State.write]; split
  · next e => rw [e, List.append_nil]; exact ⟨rfl, rfl, rfl⟩
  · exact ⟨rfl, rfl, rfl⟩

theorem finish_fields (c : Cfg) (s : State) (l : Loc) (ntf : List Ntfn) :
    (finish c s l ntf).1.log = s.log ++ l.batch ∧ (finish c s l ntf).1.fst = s.fst ∧
    (finish c s l ntf).1.ftip = s.ftip := by
  simp only [finish]
  split <;> exact write_fields s l.batchFirst l.batch

/-- the three outcomes of the checkpoint test: no checkpoint at this height; the checkpoint itself
(`break`, then what follows the loop); another header at its height (cut back to the previous
checkpoint, drop the peer, re-anchor) -/
theorem cpTest_cases (c : Cfg) (p h : Nat) (s : State) (l : Loc) (ntf : List Ntfn) (nh : Nat) :
    (cpTest c p h s l ntf nh = none ∧ ∀ cp, s.ncp = some cp → nh ≠ cp.height) ∨
    ∃ cp, s.ncp = some cp ∧ nh = cp.height ∧
      ((h = cp.id ∧ cpTest c p h s l ntf nh = some (finish c s { l with recvCp := true } ntf)) ∨
       (h ≠ cp.id ∧ cpTest c p h s l ntf nh = some
          ({ (s.rollBackTo (findPrevCp c.cps cp.height).height).1 with
               peers := disconnect (s.rollBackTo (findPrevCp c.cps cp.height).height).1.peers p,
               hl := anchor (s.rollBackTo (findPrevCp c.cps cp.height).height).1.log },
           ntf ++ (s.rollBackTo (findPrevCp c.cps cp.height).height).2))) := by
  rw [cpTest]
  cases hn : s.ncp with
  | none => exact Or.inl ⟨rfl, fun _ e => nomatch e⟩
  | some cp =>
    dsimp only
    by_cases h1 : nh = cp.height
    · rw [if_pos h1]
      refine Or.inr ⟨cp, rfl, h1, ?_⟩
      by_cases h2 : h = cp.id
      · rw [if_pos h2]; exact Or.inl ⟨h2, rfl⟩
      · rw [if_neg h2, h1]; exact Or.inr ⟨h2, rfl⟩
    · rw [if_neg h1]
      exact Or.inl ⟨rfl, fun cp' e => by cases e; exact h1⟩

/-- what a decision of the non-connecting branch tells about the header: `skip` means it is
stored already; `adopt bh` means every guard of the reorganisation has passed. -/
theorem reorgDecision_spec (c : Cfg) (s : State) (p : Nat) (prev : Node) (h : Nat) (rest : List Nat) :
    match reorgDecision c s p prev h rest with
    | .skip => h = prev.id ∨ h ∈ s.log
    | .adopt bh =>
      (s.sync = some p ∨ synced c s = true) ∧ h ≠ prev.id ∧ h ∉ s.log ∧
      (c.tbl.parent h).bind (idxOf s.log) = some bh ∧ (findPrevCp c.cps (prev.height + 1)).height ≤ bh ∧
      (h :: rest).all c.tbl.valid = true ∧
      knownWalk c.tbl s.log (prev.height - bh) s.hl prev.id 0 < sumWork c.tbl (h :: rest)
    | _ => True := by
  rw [reorgDecision]
  by_cases h1 : (s.sync != some p && !synced c s) = true
  · rw [if_pos h1]; trivial
  rw [if_neg h1]
  by_cases h2 : h = prev.id
  · rw [if_pos h2]; exact Or.inl h2
  rw [if_neg h2]
  by_cases h3 : h ∈ s.log
  · rw [if_pos h3]; exact Or.inr h3
  rw [if_neg h3]
  cases h4 : (c.tbl.parent h).bind (idxOf s.log) with
  | none => trivial
  | some bh =>
    dsimp only
    by_cases h5 : bh < (findPrevCp c.cps (prev.height + 1)).height
    · rw [if_pos h5]; trivial
    rw [if_neg h5]
    cases h6 : (h :: rest).all c.tbl.valid with
    | false => trivial
    | true =>
      rw [if_neg (by decide)]
      by_cases h7 : knownWalk c.tbl s.log (prev.height - bh) s.hl prev.id 0 > sumWork c.tbl (h :: rest)
      · rw [if_pos h7]; trivial
      rw [if_neg h7]
      by_cases h8 : knownWalk c.tbl s.log (prev.height - bh) s.hl prev.id 0 = sumWork c.tbl (h :: rest)
      · rw [if_pos h8]; trivial
      rw [if_neg h8]
      refine ⟨?_, h2, h3, rfl, Nat.le_of_not_lt h5, rfl, Nat.lt_of_le_of_ne (Nat.le_of_not_lt h7) h8⟩
      cases hs : synced c s with
      | true => exact Or.inr rfl
      | false =>
        refine Or.inl (Classical.byContradiction fun hn => h1 ?_)
        rw [hs, bne_iff_ne.mpr hn]; rfl

theorem all_valid_cons {t : Tbl} {h : Nat} {rest : List Nat} (hv : (h :: rest).all t.valid = true) :
    t.valid h = true ∧ rest.all t.valid = true := by
  rwa [List.all_cons, Bool.and_eq_true] at hv

theorem doReorg_eq (c : Cfg) (s : State) (p : Nat) {h bh : Nat} (hidx : (c.tbl.parent h).bind (idxOf s.log) = some bh) :
    bh < s.log.length ∧ c.tbl.parent h = some (tipId (s.log.take (bh + 1))) ∧
    ∃ f ft, (doReorg c s p h bh).1 =
      { s with sync := some p, log := s.log.take (bh + 1) ++ [h], fst := f, ftip := ft,
               hl := hlPush c.win (anchor (s.log.take (bh + 1))) ⟨h, (s.log.take (bh + 1)).length⟩ } := by
  obtain ⟨q, hq, hi⟩ := Option.bind_eq_some_iff.mp hidx
  obtain ⟨hb, hget⟩ := idxOf_some hi
  have hlen : (s.log.take (bh + 1)).length = bh + 1 := List.length_take.trans (Nat.min_eq_left hb)
  have hhl : hlPush c.win (hlReset ⟨(c.tbl.parent h).getD 0, bh⟩) ⟨h, bh + 1⟩
      = hlPush c.win (anchor (s.log.take (bh + 1))) ⟨h, (s.log.take (bh + 1)).length⟩ := by
    rw [anchor, tipId_take hget, tipHeight, hlen, hq]; rfl
  obtain ⟨f, ft, he⟩ := rollBackTo_eq { s with sync := some p } bh
  refine ⟨hb, by rw [tipId_take hget]; exact hq, f, ft, ?_⟩
  rw [doReorg]; dsimp only
  rw [he, write_eq _ (fun _ => hlen.symm), hhl]

theorem linked_tail {t : Tbl} {a : Nat} {l : List Nat} (h : linked t (a :: l) = true) : linked t l = true := by
  cases l with
  | nil => rfl
  | cons b rest => rw [linked, Bool.and_eq_true] at h; exact h.2

theorem linked_next {t : Tbl} {h h' : Nat} {rest : List Nat} (hlk : linked t (h :: rest) = true)
    (hh : rest.head? = some h') : t.parent h' = some h := by
  cases rest with
  | nil => cases hh
  | cons b bs => cases hh; rw [linked, Bool.and_eq_true, beq_iff_eq] at hlk; exact hlk.1

theorem hlPush_head {win : Nat} (hw : 1 ≤ win) (hl : List Node) (n : Node) : (hlPush win hl n).head? = some n := by
  rw [hlPush, List.head?_take, if_neg (Nat.ne_of_gt hw)]; rfl

theorem pushBatch_batch (l : Loc) (h nh : Nat) : (pushBatch l h nh).batch = l.batch ++ [h] := by
  rw [pushBatch]; split
  · next hb => rw [hb]; rfl
  · rfl

theorem pushBatch_first (l : Loc) (h nh : Nat) :
    (pushBatch l h nh).batchFirst = if l.batch = [] then nh else l.batchFirst := by
  rw [pushBatch]; split <;> rfl

theorem pushBatch_finalHeight (l : Loc) (h nh : Nat) : (pushBatch l h nh).finalHeight = nh := by
  rw [pushBatch]; split <;> rfl

theorem pushBatch_recvCp (l : Loc) (h nh : Nat) : (pushBatch l h nh).recvCp = l.recvCp := by
  rw [pushBatch]; split <;> rfl

/-- `headerList.Back()` is nil -/
theorem loop_nohead {c : Cfg} {p h : Nat} {rest : List Nat} {s : State} {l : Loc} {ntf : List Ntfn}
    (hhd : s.hl.head? = none) : loop c p (h :: rest) s l ntf = ({ s with peers := disconnect s.peers p }, ntf) := by
  rw [loop, hhd]

theorem loop_invalid {c : Cfg} {p h : Nat} {rest : List Nat} {s : State} {l : Loc} {ntf : List Ntfn} {prev : Node}
    (hhd : s.hl.head? = some prev) (hpar : c.tbl.parent h = some prev.id) (hv : c.tbl.valid h = false) :
    loop c p (h :: rest) s l ntf = ({ s with peers := disconnect s.peers p, hl := anchor s.log }, ntf) := by
  rw [loop, hhd]; dsimp only; rw [if_pos hpar, hv]; rfl

theorem loop_connect {c : Cfg} {p h : Nat} {rest : List Nat} {s : State} {l : Loc} {ntf : List Ntfn} {prev : Node}
    (hhd : s.hl.head? = some prev) (hpar : c.tbl.parent h = some prev.id) (hv : c.tbl.valid h = true) :
    loop c p (h :: rest) s l ntf =
      match cpTest c p h { s with peers := updLast s.peers p (prev.height + 1), hl := hlPush c.win s.hl ⟨h, prev.height + 1⟩ }
          (pushBatch { l with finalId := h } h (prev.height + 1)) ntf (prev.height + 1) with
      | some r => r
      | none => loop c p rest { s with peers := updLast s.peers p (prev.height + 1), hl := hlPush c.win s.hl ⟨h, prev.height + 1⟩ }
          (pushBatch { l with finalId := h } h (prev.height + 1)) ntf := by
  rw [loop, hhd]; dsimp only; rw [if_pos hpar, hv]; rfl

theorem loop_fork {c : Cfg} {p h : Nat} {rest : List Nat} {s : State} {l : Loc} {ntf : List Ntfn} {prev : Node}
    (hhd : s.hl.head? = some prev) (hpar : c.tbl.parent h ≠ some prev.id) :
    loop c p (h :: rest) s l ntf =
      match reorgDecision c s p prev h rest with
      | .ignore => (s, ntf)
      | .skip => loop c p rest s { l with finalId := h } ntf
      | .disconnect => ({ s with peers := disconnect s.peers p }, ntf)
      | .adopt bh =>
        match cpTest c p h (doReorg c s p h bh).1 { l with finalId := h } (ntf ++ (doReorg c s p h bh).2) 0 with
        | some r => r
        | none => loop c p rest (doReorg c s p h bh).1 { l with finalId := h } (ntf ++ (doReorg c s p h bh).2) := by
  rw [loop, hhd]; dsimp only; rw [if_neg hpar]; rfl

theorem handleHeaders_cases (c : Cfg) (s : State) (p : Nat) (hs : List Nat) :
    (hs ≠ [] ∧ linked c.tbl hs = true ∧ handleHeaders c s p hs = loop c p hs s {} []) ∨
    ((hs = [] ∨ linked c.tbl hs = false) ∧ ∃ ps, handleHeaders c s p hs = ({ s with peers := ps }, [])) := by
  rw [handleHeaders]
  by_cases hne : hs = []
  · rw [if_pos hne]; exact Or.inr ⟨Or.inl hne, s.peers, rfl⟩
  · rw [if_neg hne]
    cases hl : linked c.tbl hs with
    | true => exact Or.inl ⟨hne, rfl, rfl⟩
    | false => exact Or.inr ⟨Or.inr rfl, _, rfl⟩

theorem startSync_fields (s : State) : (startSync s).log = s.log ∧ (startSync s).corrupt = s.corrupt ∧ (startSync s).hl = s.hl
    ∧ (startSync s).fst = s.fst ∧ (startSync s).ftip = s.ftip ∧ (startSync s).ncp = s.ncp := by
  rw [startSync]
  cases s.sync <;> exact ⟨rfl, rfl, rfl, rfl, rfl, rfl⟩

/-- `s'` differs from `s` at most in the peer bookkeeping and in the in-memory list, which is as it
was or re-anchored on the stored tip (`handleDonePeerMsg` does that when the sync peer goes) -/
structure Quiet (s s' : State) : Prop where
  log : s'.log = s.log
  corrupt : s'.corrupt = s.corrupt
  hl : s'.hl = s.hl ∨ s'.hl = anchor s.log
  fst : s'.fst = s.fst
  ftip : s'.ftip = s.ftip
  ncp : s'.ncp = s.ncp

theorem newPeer_quiet (s : State) (p : Nat) : Quiet s (newPeer s p) := by
  rw [newPeer]; split
  · exact ⟨rfl, rfl, .inl rfl, rfl, rfl, rfl⟩
  · have ⟨a, b, d, e, f, g⟩ := startSync_fields { s with cand := s.cand ++ [p] }
    exact ⟨a, b, .inl d, e, f, g⟩

theorem donePeer_quiet (s : State) (p : Nat) : Quiet s (donePeer s p) := by
  rw [donePeer]; dsimp only; split
  · have ⟨a, b, d, e, f, g⟩ := startSync_fields { s with cand := s.cand.erase p, sync := none, hl := anchor s.log }
    exact ⟨a, b, .inr d, e, f, g⟩
  · exact ⟨rfl, rfl, .inl rfl, rfl, rfl, rfl⟩

theorem invMsg_quiet (c : Cfg) (s : State) (p id : Nat) : Quiet s (invMsg c s p id) := by
  rw [invMsg]; split
  · split <;> exact ⟨rfl, rfl, .inl rfl, rfl, rfl, rfl⟩
  · exact ⟨rfl, rfl, .inl rfl, rfl, rfl, rfl⟩

theorem backlog_ntf (s : State) (h : Nat) : (backlog s h).ntf = [] := by
  simp only [backlog, apply_ite Out.ntf]
  cases backlogRange s.log (h + 1) (s.ftip.height - h) <;> simp only [ite_self]

theorem cfWrite_fields (s : State) (stop n : Nat) (ok : Bool) :
    (cfWrite s stop n ok).1.log = s.log ∧ (cfWrite s stop n ok).1.corrupt = s.corrupt ∧
    (cfWrite s stop n ok).1.hl = s.hl ∧ (cfWrite s stop n ok).1.ncp = s.ncp := by
  rw [cfWrite]
  split
  · exact ⟨rfl, rfl, rfl, rfl⟩
  · split
    · exact ⟨rfl, rfl, rfl, rfl⟩
    · split <;> exact ⟨rfl, rfl, rfl, rfl⟩

/-- the events that touch no store - all but a `headers` message (written or not), an import and a
filter-header write - are quiet and announce nothing -/
theorem step_quiet (c : Cfg) (s : State) (e : Ev) :
    match e with
    | .headers .. | .headersFailWrite .. | .importReset .. | .cfWrite .. => True
    | _ => Quiet s (step c s e).1 ∧ (step c s e).2.ntf = [] := by
  cases e with
  | headers | headersFailWrite | importReset | cfWrite => trivial
  | newPeer p => exact ⟨newPeer_quiet s p, rfl⟩
  | donePeer p => exact ⟨donePeer_quiet s p, rfl⟩
  | peerHeight p k => exact ⟨⟨rfl, rfl, .inl rfl, rfl, rfl, rfl⟩, rfl⟩
  | inv p id => exact ⟨invMsg_quiet c s p id, rfl⟩
  | backlog k => exact ⟨⟨rfl, rfl, .inl rfl, rfl, rfl, rfl⟩, backlog_ntf s k⟩

/-- what it takes for an event to keep a property of the state: a `headers` message keeps it, an
import keeps it, and so does every change that leaves the log, the misplaced-write flag and
`nextCheckpoint` alone and the in-memory list as it was or re-anchored -/
theorem step_cases {c : Cfg} {s : State} {P : State → Prop}
    (hh : ∀ p hs, P (handleHeaders c s p hs).1) (hi : ∀ blocks nf, P (importReset c s blocks nf))
    (hq : ∀ s' : State, s'.log = s.log → s'.corrupt = s.corrupt → s'.ncp = s.ncp →
      (s'.hl = s.hl ∨ s'.hl = anchor s.log) → P s') (e : Ev) : P (step c s e).1 := by
  have q := step_quiet c s e
  cases e with
  | headers p hs => exact hh p hs
  | headersFailWrite p hs =>
    dsimp only [step]; rw [handleHeadersFailWrite]; split
    · exact hq _ rfl rfl rfl (.inr rfl)
    · exact hh p hs
  | importReset blocks nf => exact hi blocks nf
  | cfWrite stop n ok => have ⟨a, b, d, e⟩ := cfWrite_fields s stop n ok; exact hq _ a b e (.inl d)
  | _ => exact hq _ q.1.log q.1.corrupt q.1.ncp q.1.hl

theorem run_inv {c : Cfg} {P : State → Prop} (hstep : ∀ s e, P s → P (step c s e).1) (es : List Ev) :
    ∀ s, P s → P (run c s es) := by
  induction es with
  | nil => exact fun _ h => h
  | cons e es ih => exact fun s h => ih _ (hstep s e h)

theorem linkedFrom_append (t : Tbl) (a : Nat) (l : List Nat) (h : Nat) :
    linkedFrom t a (l ++ [h]) = (linkedFrom t a l && (t.parent h == some (tipId (a :: l)))) := by
  induction l generalizing a with
  | nil => rw [List.nil_append, linkedFrom, linkedFrom, linkedFrom, Bool.and_true, Bool.true_and]; rfl
  | cons b bs ih =>
    rw [List.cons_append, linkedFrom, linkedFrom, ih, Bool.and_assoc, tipId, tipId, List.getLast?_cons_cons]

/-- `chainLinkedValid` is what the observation-level oracle evaluates on a dump of the store -/
theorem Good.chainLinkedValid {t : Tbl} {l : List Nat} (g : Good t l) : chainLinkedValid t l = true := by
  induction g with
  | gen => rfl
  | @snoc l h g hp hv ih =>
    cases l with
    | nil => exact absurd rfl g.ne_nil
    | cons g0 rest =>
      rw [BM.chainLinkedValid, Bool.and_eq_true, Bool.and_eq_true, beq_iff_eq] at ih
      obtain ⟨⟨rfl, hl⟩, ha⟩ := ih
      rw [List.cons_append, BM.chainLinkedValid, linkedFrom_append, hl, hp, List.all_append, ha, List.all_cons, hv]
      simp only [beq_self_eq_true, Bool.and_true, List.all_nil]

end Neutrino.BM
