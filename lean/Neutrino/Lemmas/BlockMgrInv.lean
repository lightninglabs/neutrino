/-
The invariants of the block-manager machine and the loop invariants of `handleHeadersMsg`, each
with what one pass through the loop does to it.  Two levels: `Inv1` (well-formed valid log, no
misplaced write, `headerList.back` is the stored tip) holds for every checkpoint list; `Inv`
(C01/C02/C19 share it) adds, for an ascending checkpoint list, that the WHOLE in-memory list is the
top of the stored chain, every checkpoint is held, and `nextCheckpoint` is the first checkpoint
above the stored tip.
-/
import Neutrino.Lemmas.BlockMgrCp
namespace Neutrino.BM

/-- `ListAnchored`: the back of the in-memory header list is the stored tip. -/
def ListAnchored (s : State) : Prop := s.hl.head? = some ⟨tipId s.log, tipHeight s.log⟩

structure Inv1 (c : Cfg) (s : State) : Prop where
  good : Good c.tbl s.log
  clean : s.corrupt = false
  anchored : ListAnchored s

/-- inside the loop: `l.batch` is pushed on `headerList` but not yet written -/
structure LI (c : Cfg) (s : State) (l : Loc) (rest : List Nat) : Prop where
  good : Good c.tbl (s.log ++ l.batch)
  goodLog : Good c.tbl s.log
  clean : s.corrupt = false
  anchored : s.hl.head? = some ⟨tipId (s.log ++ l.batch), tipHeight (s.log ++ l.batch)⟩
  first : l.batch ≠ [] → l.batchFirst = s.log.length
  next : l.batch ≠ [] → ∀ h, rest.head? = some h → c.tbl.parent h = some (tipId (s.log ++ l.batch))

theorem Inv1.quiet {c : Cfg} {s s' : State} (h : Inv1 c s) (hl : s'.log = s.log) (hc : s'.corrupt = s.corrupt)
    (hh : s'.hl = s.hl ∨ s'.hl = anchor s.log) : Inv1 c s' := by
  refine ⟨by rw [hl]; exact h.good, by rw [hc]; exact h.clean, ?_⟩
  rw [ListAnchored, hl]
  rcases hh with e | e <;> rw [e]
  · exact h.anchored
  · rfl

theorem LI_of_inv1 {c : Cfg} {s : State} {l : Loc} (rest : List Nat) (h : Inv1 c s) (hb : l.batch = []) : LI c s l rest := by
  refine ⟨?_, h.good, h.clean, ?_, fun x => absurd hb x, fun x => absurd hb x⟩ <;> rw [hb, List.append_nil]
  · exact h.good
  · exact h.anchored

/-- a header that does not name the list's back finds nothing pending: a pending header would be its parent -/
theorem LI.idle {c : Cfg} {s : State} {l : Loc} {h : Nat} {rest : List Nat} (li : LI c s l (h :: rest))
    (hpar : c.tbl.parent h ≠ some (tipId (s.log ++ l.batch))) : l.batch = [] ∧ Inv1 c s := by
  have hb : l.batch = [] := Classical.byContradiction fun hb => hpar (li.next hb h rfl)
  have ha := li.anchored
  rw [hb, List.append_nil] at ha
  exact ⟨hb, li.goodLog, li.clean, ha⟩

theorem finish_inv {c : Cfg} {s : State} {l : Loc} {rest : List Nat} (li : LI c s l rest) (ntf : List Ntfn) :
    Inv1 c (finish c s l ntf).1 := by
  rw [finish_eq c s l ntf li.first]
  exact ⟨li.good, li.clean, li.anchored⟩

theorem cpTest_inv {c : Cfg} {p h : Nat} {s : State} {l : Loc} {ntf : List Ntfn} {nh : Nat} {rest : List Nat}
    (li : LI c s l rest) {r : State × List Ntfn} (hr : cpTest c p h s l ntf nh = some r) : Inv1 c r.1 := by
  rcases cpTest_cases c p h s l ntf nh with ⟨e, -⟩ | ⟨cp, -, -, ⟨-, e⟩ | ⟨-, e⟩⟩
  · rw [e] at hr; cases hr
  · cases e.symm.trans hr
    exact finish_inv (l := { l with recvCp := true }) ⟨li.good, li.goodLog, li.clean, li.anchored, li.first, li.next⟩ ntf
  · cases e.symm.trans hr
    obtain ⟨f, ft, he⟩ := rollBackTo_eq s (findPrevCp c.cps cp.height).height
    dsimp only; rw [he]
    exact ⟨li.goodLog.take _, li.clean, rfl⟩

theorem LI.push {c : Cfg} {s : State} {l : Loc} {h : Nat} {rest : List Nat} (hw : 1 ≤ c.win) (li : LI c s l (h :: rest))
    (hlk : linked c.tbl (h :: rest) = true) (hpar : c.tbl.parent h = some (tipId (s.log ++ l.batch)))
    (hv : c.tbl.valid h = true) (ps : List Peer) :
    LI c { s with peers := ps, hl := hlPush c.win s.hl ⟨h, (s.log ++ l.batch).length⟩ }
      (pushBatch { l with finalId := h } h (s.log ++ l.batch).length) rest := by
  have hb : s.log ++ (pushBatch { l with finalId := h } h (s.log ++ l.batch).length).batch = (s.log ++ l.batch) ++ [h] := by
    rw [pushBatch_batch, List.append_assoc]
  refine ⟨?_, li.goodLog, li.clean, ?_, fun _ => ?_, fun _ h' hh' => ?_⟩
  · rw [hb]; exact li.good.snoc hpar hv
  · rw [hb, tipId_append, tipHeight_append]; exact hlPush_head hw _ _
  · rw [pushBatch_first]
    split
    · next e => rw [e, List.append_nil]
    · next e => exact li.first e
  · rw [hb, tipId_append]; exact linked_next hlk hh'

theorem doReorg_inv {c : Cfg} (hw : 1 ≤ c.win) {s : State} (p : Nat) {h bh : Nat} (g : Good c.tbl s.log) (hc : s.corrupt = false)
    (hidx : (c.tbl.parent h).bind (idxOf s.log) = some bh) (hv : c.tbl.valid h = true) :
    Inv1 c (doReorg c s p h bh).1 := by
  obtain ⟨-, hq, f, ft, he⟩ := doReorg_eq c s p hidx
  rw [he]
  refine ⟨(g.take bh).snoc hq hv, hc, ?_⟩
  rw [ListAnchored]; dsimp only
  rw [tipId_append, tipHeight_append]; exact hlPush_head hw _ _

/-- **The loop of `handleHeadersMsg` re-establishes the invariant on every path out of it**
(normal end, `break` at a checkpoint, every early return), for every window size ≥ 1. -/
theorem loop_inv (c : Cfg) (hw : 1 ≤ c.win) (p : Nat) (rest : List Nat) :
    ∀ (s : State) (l : Loc) (ntf : List Ntfn), linked c.tbl rest = true → LI c s l rest →
      Inv1 c (loop c p rest s l ntf).1 := by
  induction rest with
  | nil => intro s l ntf _ li; exact finish_inv li ntf
  | cons h rest ih =>
    intro s l ntf hlk li
    by_cases hpar : c.tbl.parent h = some (tipId (s.log ++ l.batch))
    · cases hv : c.tbl.valid h with
      | false =>
        rw [loop_invalid li.anchored hpar hv]
        exact ⟨li.goodLog, li.clean, rfl⟩
      | true =>
        rw [loop_connect li.anchored hpar hv]; dsimp only
        rw [li.good.tipHeight_succ]
        have li' := li.push hw hlk hpar hv (updLast s.peers p (s.log ++ l.batch).length)
        cases hcp : cpTest c p h _ _ ntf _ with
        | some r => exact cpTest_inv li' hcp
        | none => exact ih _ _ ntf (linked_tail hlk) li'
    · rw [loop_fork li.anchored hpar]
      obtain ⟨hb, inv⟩ := li.idle hpar
      have spec := reorgDecision_spec c s p ⟨tipId (s.log ++ l.batch), tipHeight (s.log ++ l.batch)⟩ h rest
      cases hd : reorgDecision c s p _ h rest with
      | ignore => exact inv
      | skip => exact ih s _ ntf (linked_tail hlk) (LI_of_inv1 rest inv hb)
      | disconnect => exact ⟨inv.good, inv.clean, inv.anchored⟩
      | adopt bh =>
        rw [hd] at spec
        have li' : LI c (doReorg c s p h bh).1 { l with finalId := h } rest :=
          LI_of_inv1 rest (doReorg_inv hw p inv.good inv.clean spec.2.2.2.1 (all_valid_cons spec.2.2.2.2.2.1).1) hb
        dsimp only
        cases hcp : cpTest c p h _ _ _ _ with
        | some r => exact cpTest_inv li' hcp
        | none => exact ih _ _ _ (linked_tail hlk) li'

theorem handleHeaders_inv (c : Cfg) (hw : 1 ≤ c.win) (s : State) (p : Nat) (hs : List Nat) (h : Inv1 c s) :
    Inv1 c (handleHeaders c s p hs).1 := by
  rcases handleHeaders_cases c s p hs with ⟨-, hl, e⟩ | ⟨-, ps, e⟩ <;> rw [e]
  · exact loop_inv c hw p hs s {} [] hl (LI_of_inv1 hs h rfl)
  · exact ⟨h.good, h.clean, h.anchored⟩

theorem inv1_step (c : Cfg) (hw : 1 ≤ c.win) (s : State) (e : Ev) (h : Inv1 c s) : Inv1 c (step c s e).1 := by
  refine step_cases (fun p hs => handleHeaders_inv c hw s p hs h) (fun blocks nf => ?_) (fun _ a b _ d => h.quiet a b d) e
  rw [importReset]
  refine ⟨?_, h.clean, rfl⟩
  dsimp only; split
  · next hok => exact (chainOk_append c _ _ hok h.good).1
  · exact h.good

theorem inv1_init (c : Cfg) (peers : List Peer) : Inv1 c (init c peers) :=
  ⟨Good.gen, rfl, rfl⟩

theorem inv1_run (c : Cfg) (hw : 1 ≤ c.win) (s : State) (es : List Ev) (h : Inv1 c s) : Inv1 c (run c s es) :=
  run_inv (inv1_step c hw) es s h

structure Inv (c : Cfg) (s : State) : Prop where
  good : Good c.tbl s.log
  clean : s.corrupt = false
  anch : FullAnch s.log s.hl
  cps : CpsHold c.cps s.log
  ncp : s.ncp = findNextCp c.cps (tipHeight s.log)

/-- loop state: `l.batch` is pushed on `headerList` but not yet written; `L = s.log ++ l.batch` -/
structure LIf (c : Cfg) (s : State) (l : Loc) (rest : List Nat) : Prop where
  good : Good c.tbl (s.log ++ l.batch)
  goodLog : Good c.tbl s.log
  clean : s.corrupt = false
  anch : FullAnch (s.log ++ l.batch) s.hl
  first : l.batch ≠ [] → l.batchFirst = s.log.length
  next : l.batch ≠ [] → ∀ h, rest.head? = some h → c.tbl.parent h = some (tipId (s.log ++ l.batch))
  cpsS : CpsHold c.cps s.log
  cpsL : CpsHold c.cps (s.log ++ l.batch)
  ncpS : s.ncp = findNextCp c.cps (tipHeight s.log)
  ncpL : s.ncp = findNextCp c.cps (tipHeight (s.log ++ l.batch))
  fh : l.batch ≠ [] → l.finalHeight = tipHeight (s.log ++ l.batch)
  noCp : l.recvCp = false

theorem LIf.toLI {c : Cfg} {s : State} {l : Loc} {rest : List Nat} (li : LIf c s l rest) : LI c s l rest :=
  ⟨li.good, li.goodLog, li.clean, li.anch.head li.good, li.first, li.next⟩

theorem Inv.quiet {c : Cfg} {s s' : State} (h : Inv c s) (hl : s'.log = s.log) (hc : s'.corrupt = s.corrupt)
    (hn : s'.ncp = s.ncp) (hh : s'.hl = s.hl ∨ s'.hl = anchor s.log) : Inv c s' := by
  refine ⟨by rw [hl]; exact h.good, by rw [hc]; exact h.clean, ?_, by rw [hl]; exact h.cps, by rw [hl, hn]; exact h.ncp⟩
  rw [hl]
  rcases hh with e | e <;> rw [e]
  · exact h.anch
  · exact FullAnch.anchor _ h.good.ne_nil

theorem LIf_of_inv {c : Cfg} {s : State} {l : Loc} (rest : List Nat) (h : Inv c s) (hb : l.batch = [])
    (hr : l.recvCp = false) : LIf c s l rest := by
  refine ⟨?_, h.good, h.clean, ?_, fun x => absurd hb x, fun x => absurd hb x, h.cps, ?_, h.ncp, ?_,
    fun x => absurd hb x, hr⟩ <;> rw [hb, List.append_nil]
  · exact h.good
  · exact h.anch
  · exact h.cps
  · exact h.ncp

theorem finish_core (c : Cfg) (s : State) (l : Loc) (ntf : List Ntfn)
    (good : Good c.tbl (s.log ++ l.batch)) (clean : s.corrupt = false)
    (anch : FullAnch (s.log ++ l.batch) s.hl) (first : l.batch ≠ [] → l.batchFirst = s.log.length)
    (cpsL : CpsHold c.cps (s.log ++ l.batch))
    (hncp : (if l.recvCp = true then findNextCp c.cps l.finalHeight else s.ncp)
              = findNextCp c.cps (tipHeight (s.log ++ l.batch))) :
    Inv c (finish c s l ntf).1 := by
  rw [finish_eq c s l ntf first]
  exact ⟨good, clean, anch, cpsL, hncp⟩

/-- the checkpoint-mismatch exit: cut back to the previous checkpoint, re-anchor.  Between that
checkpoint and the next one there is none, so `nextCheckpoint` stays right. -/
theorem mismatch_inv {c : Cfg} (ok : CpsOk c.cps) {s : State} {cp : Cp} (good : Good c.tbl s.log)
    (clean : s.corrupt = false) (cps : CpsHold c.cps s.log) (ncp : s.ncp = findNextCp c.cps (tipHeight s.log))
    (hcp : s.ncp = some cp) (ps : List Peer) (f : Nat) (ft : Node) :
    Inv c { s with log := s.log.take ((findPrevCp c.cps cp.height).height + 1), fst := f, ftip := ft, peers := ps,
                   hl := anchor (s.log.take ((findPrevCp c.cps cp.height).height + 1)) } := by
  have hg := good.take (findPrevCp c.cps cp.height).height
  refine ⟨hg, clean, FullAnch.anchor _ hg.ne_nil, cps.take _, ?_⟩
  have hlt := (findNextCp_mem (ncp.symm.trans hcp)).2
  have hT : tipHeight (s.log.take ((findPrevCp c.cps cp.height).height + 1))
      = min (findPrevCp c.cps cp.height).height (tipHeight s.log) := by
    rw [tipHeight, List.length_take, ← Nat.sub_min_sub_right, Nat.add_sub_cancel]; rfl
  dsimp only
  rw [ncp, hT]
  refine (ncp_stable (Nat.min_le_right _ _) fun x hx hlt' => ?_).symm
  rcases Nat.lt_or_ge (tipHeight s.log) x.height with h1 | h1
  · exact h1
  · have := findPrevCp_max ok.sorted cp.height x hx (Nat.lt_of_le_of_lt h1 hlt)
    exact absurd hlt' (Nat.not_lt.mpr (Nat.le_min.mpr ⟨this, h1⟩))

/-- the connect arm's push, followed by the checkpoint test: either the handler is done, the
invariant holds and the store is extended up to the checkpoint or cut back to the previous one,
or the loop goes on with the loop invariant for the remaining headers. -/
theorem connect_step {c : Cfg} (ok : CpsOk c.cps) (hw : 1 ≤ c.win) {s : State} {l : Loc} {h : Nat} {rest : List Nat}
    (li : LIf c s l (h :: rest)) (hlk : linked c.tbl (h :: rest) = true)
    (hpar : c.tbl.parent h = some (tipId (s.log ++ l.batch))) (hv : c.tbl.valid h = true)
    (p : Nat) (ntf : List Ntfn) (ps : List Peer) :
    match cpTest c p h { s with peers := ps, hl := hlPush c.win s.hl ⟨h, (s.log ++ l.batch).length⟩ }
        (pushBatch { l with finalId := h } h (s.log ++ l.batch).length) ntf (s.log ++ l.batch).length with
    | some r => Inv c r.1 ∧ ∃ cp, s.ncp = some cp ∧ (s.log ++ l.batch).length = cp.height ∧
        ((h = cp.id ∧ r.1.log = s.log ++ l.batch ++ [h]) ∨
         (h ≠ cp.id ∧ r.1.log = s.log.take ((findPrevCp c.cps cp.height).height + 1)))
    | none => LIf c { s with peers := ps, hl := hlPush c.win s.hl ⟨h, (s.log ++ l.batch).length⟩ }
        (pushBatch { l with finalId := h } h (s.log ++ l.batch).length) rest := by
  have li1 := li.toLI.push hw hlk hpar hv ps
  have hT := li.good.tipHeight_succ
  generalize hl' : pushBatch { l with finalId := h } h (s.log ++ l.batch).length = l' at li1 ⊢
  have hL : s.log ++ l'.batch = s.log ++ l.batch ++ [h] := by rw [← hl', pushBatch_batch, List.append_assoc]
  have hfh : l'.finalHeight = tipHeight (s.log ++ l'.batch) := by rw [hL, ← hl', pushBatch_finalHeight, tipHeight_append]
  have hanch : FullAnch (s.log ++ l'.batch) (hlPush c.win s.hl ⟨h, (s.log ++ l.batch).length⟩) :=
    hL ▸ li.anch.push c.win hw h
  have hcps : (∀ cp, findNextCp c.cps (tipHeight (s.log ++ l.batch)) = some cp →
      cp.height = tipHeight (s.log ++ l.batch) + 1 → h = cp.id) → CpsHold c.cps (s.log ++ l'.batch) :=
    fun hx => hL ▸ li.cpsL.push ok.sorted h hx hT
  rcases cpTest_cases c p h { s with peers := ps, hl := hlPush c.win s.hl ⟨h, (s.log ++ l.batch).length⟩ } l' ntf
      (s.log ++ l.batch).length with ⟨e, hno⟩ | ⟨cp, hn, hh, ⟨hid, e⟩ | ⟨hid, e⟩⟩ <;> rw [e] <;> dsimp only
  · have hno' : ∀ cp, findNextCp c.cps (tipHeight (s.log ++ l.batch)) = some cp → cp.height ≠ tipHeight (s.log ++ l.batch) + 1 :=
      fun cp hcp e => hno cp (li.ncpL.trans hcp) (hT ▸ e.symm)
    refine ⟨li1.good, li.goodLog, li.clean, hanch, li1.first, li1.next, li.cpsS,
      hcps fun cp hcp e => absurd e (hno' cp hcp), li.ncpS, ?_, fun _ => hfh, ?_⟩
    · rw [hL, tipHeight_append, ← hT, ← findNextCp_succ ok.sorted hno']; exact li.ncpL
    · rw [← hl', pushBatch_recvCp]; exact li.noCp
  · refine ⟨?_, cp, hn, hh, Or.inl ⟨hid, by rw [finish_eq c _ { l' with recvCp := true } ntf li1.first]; exact hL⟩⟩
    refine finish_core c _ _ ntf li1.good li.clean hanch li1.first (hcps fun cp' hcp _ => ?_)
      ((if_pos rfl).trans (congrArg _ hfh))
    cases (li.ncpL.trans hcp).symm.trans hn; exact hid
  · obtain ⟨f, ft, he⟩ := rollBackTo_eq { s with peers := ps, hl := hlPush c.win s.hl ⟨h, (s.log ++ l.batch).length⟩ }
      (findPrevCp c.cps cp.height).height
    rw [he]
    exact ⟨mismatch_inv ok li.goodLog li.clean li.cpsS li.ncpS hn _ f ft, cp, hn, hh, Or.inr ⟨hid, rfl⟩⟩

/-- below the reorg floor nothing is a checkpoint the chain has passed -/
theorem floor_covers {cps : List Cp} (ok : CpsOk cps) {tipH bh : Nat}
    (hfloor : (findPrevCp cps (tipH + 1)).height ≤ bh) : ∀ cp' ∈ cps, cp'.height ≤ tipH → cp'.height ≤ bh :=
  fun cp' hm hle => Nat.le_trans (findPrevCp_max ok.sorted (tipH + 1) cp' hm (Nat.lt_succ_of_le hle)) hfloor

/-- the reorganisation: the fork point is below the tip, the loop invariant holds again (nothing
pending), and the checkpoint test that follows (with `node.Height` still 0) lets the loop go on. -/
theorem reorg_step {c : Cfg} (ok : CpsOk c.cps) (hw : 1 ≤ c.win) {s : State} {l : Loc} {h bh : Nat} {rest : List Nat}
    (inv : Inv c s) (hb : l.batch = []) (hr : l.recvCp = false) (p : Nat) (ntf : List Ntfn)
    (hpar : c.tbl.parent h ≠ some (tipId s.log))
    (hd : reorgDecision c s p ⟨tipId s.log, tipHeight s.log⟩ h rest = .adopt bh) :
    bh < tipHeight s.log ∧ (doReorg c s p h bh).1.log = s.log.take (bh + 1) ++ [h] ∧
    (doReorg c s p h bh).1.ncp = s.ncp ∧ LIf c (doReorg c s p h bh).1 l rest ∧
    cpTest c p h (doReorg c s p h bh).1 l ntf 0 = none := by
  have spec := reorgDecision_spec c s p ⟨tipId s.log, tipHeight s.log⟩ h rest
  rw [hd] at spec
  obtain ⟨-, -, -, hidx, hfloor, hval, -⟩ := spec
  obtain ⟨hlt, hq, f, ft, he⟩ := doReorg_eq c s p hidx
  have hg := inv.good.take bh
  have hlen : (s.log.take (bh + 1)).length = bh + 1 := List.length_take.trans (Nat.min_eq_left hlt)
  -- the fork point is strictly below the tip (else `h` would connect)
  have hbh : bh < tipHeight s.log := by
    refine Nat.lt_of_not_le fun hge => hpar ?_
    rw [hq, List.take_of_length_le (Nat.sub_le_iff_le_add.mp hge)]
  have hK := floor_covers ok hfloor
  have hncp : s.ncp = findNextCp c.cps (tipHeight (s.log.take (bh + 1) ++ [h])) := by
    rw [inv.ncp, tipHeight_append, hlen]
    refine (ncp_stable hbh fun x hx hlt' => Nat.lt_of_not_le fun hle => ?_).symm
    exact absurd (hK x hx hle) (Nat.not_le.mpr (Nat.lt_of_succ_lt hlt'))
  have hcps : CpsHold c.cps (s.log.take (bh + 1) ++ [h]) :=
    (inv.cps.take (bh + 1)).snoc h fun cp' hm he' =>
      absurd (hK cp' hm (by rw [he', hlen]; exact hbh)) (by rw [he', hlen]; exact Nat.lt_irrefl _)
  rw [he]
  refine ⟨hbh, rfl, rfl, ?_, ?_⟩
  · refine ⟨?_, hg.snoc hq (all_valid_cons hval).1, inv.clean, ?_, fun x => absurd hb x, fun x => absurd hb x, hcps, ?_,
      hncp, ?_, fun x => absurd hb x, hr⟩ <;> rw [hb, List.append_nil]
    · exact hg.snoc hq (all_valid_cons hval).1
    · exact (FullAnch.anchor _ hg.ne_nil).push c.win hw h
    · exact hcps
    · exact hncp
  · rcases cpTest_cases c p h _ l ntf 0 with ⟨e, -⟩ | ⟨cp, hn, h0, -⟩
    · exact e
    · exact absurd (h0 ▸ (findNextCp_mem (inv.ncp.symm.trans hn)).2) (Nat.not_lt_zero _)

end Neutrino.BM
