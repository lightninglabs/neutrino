/-
`ChainService.IsBanned` as the CODE defines it (translated from neutrino.go on every run,
Gen/TransBan.lean): "banned" exactly when the address parses, the store answers without error and its
status says banned - what the model's `Ban.isBanned` (Model/BanEnforce.lean) assumes: any error counts as
"not banned".
-/
import Neutrino.Gen.TransBan
namespace Neutrino.Ban
open Neutrino.Gen.TransBan Neutrino.GoInt

/-- closed form for every parser / store / clock answer -/
theorem trans_isBanned (addr : String) (before : Atom → Atom → Bool) (status : Atom → T_banman_Status × Bool)
    (parse : String → Atom → Atom × Bool) (now : Atom) :
    IsBanned addr before status parse now
      = (!(parse addr 0).2 && !(status (parse addr 0).1).2 && (status (parse addr 0).1).1.Banned) := by
  unfold IsBanned
  cases h1 : (parse addr 0).2 <;> cases h2 : (status (parse addr 0).1).2 <;> simp [h1, h2]

end Neutrino.Ban
