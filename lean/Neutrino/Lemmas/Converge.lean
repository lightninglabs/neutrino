/- Lemmas for C04 (model: Neutrino/Model/Converge.lean). -/
import Neutrino.Model.Converge
namespace Neutrino.Net

theorem remove_eq_filter (q : Peer) (ps : List Peer) : remove q ps = ps.filter (fun p => decide (p ≠ q)) := by
  induction ps with
  | nil => rfl
  | cons a as ih =>
    rw [remove, List.filter_cons, ih]
    by_cases h : a = q <;>
      simp only [h, ↓reduceIte, ne_eq, not_true_eq_false, not_false_eq_true, decide_false, decide_true,
        Bool.false_eq_true]

theorem mem_remove {p q : Peer} {ps : List Peer} : p ∈ remove q ps ↔ p ∈ ps ∧ p ≠ q := by
  rw [remove_eq_filter, List.mem_filter, decide_eq_true_iff]

theorem nonHonest_remove_le (q : Peer) (ps : List Peer) : nonHonest (remove q ps) ≤ nonHonest ps := by
  induction ps with
  | nil => exact Nat.le_refl _
  | cons a as ih =>
    rw [remove, nonHonest]; split
    · exact Nat.le_trans ih (Nat.le_add_left _ _)
    · exact Nat.add_le_add_left ih _

theorem nonHonest_remove_lt {q : Peer} {ps : List Peer} (hm : q ∈ ps) (hb : q.beh ≠ .honest) :
    nonHonest (remove q ps) < nonHonest ps := by
  induction ps with
  | nil => exact absurd hm List.not_mem_nil
  | cons a as ih =>
    rw [remove, nonHonest]; split
    · next h =>
      rw [h, if_neg hb]
      exact Nat.lt_of_le_of_lt (nonHonest_remove_le q as) (Nat.lt_add_of_pos_left Nat.one_pos)
    · next h => exact Nat.add_lt_add_left (ih ((List.mem_cons.mp hm).resolve_left (Ne.symm h))) _

theorem nonHonest_zero_honest {ps : List Peer} (h0 : nonHonest ps = 0) {q : Peer} (hm : q ∈ ps) :
    q.beh = .honest := by
  induction ps with
  | nil => exact absurd hm List.not_mem_nil
  | cons a as ih =>
    rw [nonHonest] at h0
    cases List.mem_cons.mp hm with
    | inl h1 => rw [h1]; exact Decidable.by_contra fun hb => by rw [if_neg hb] at h0; omega
    | inr h1 => exact ih (Nat.eq_zero_of_add_eq_zero_left h0) h1

theorem pickSync_cons (p : Peer) (ps : List Peer) :
    pickSync (p :: ps) = some p ∨ (pickSync (p :: ps) = pickSync ps ∧ pickSync ps ≠ none) := by
  rw [pickSync]
  cases pickSync ps with
  | none => exact .inl rfl
  | some b =>
    dsimp only
    split
    · exact .inr ⟨rfl, Option.some_ne_none b⟩
    · exact .inl rfl

theorem pickSync_mem {ps : List Peer} {q : Peer} (h : pickSync ps = some q) : q ∈ ps := by
  induction ps with
  | nil => cases h
  | cons a as ih =>
    rcases pickSync_cons a as with e | ⟨e, _⟩ <;> rw [e] at h
    · cases h; exact List.mem_cons_self
    · exact List.mem_cons_of_mem _ (ih h)

theorem pickSync_some {ps : List Peer} (h : ps ≠ []) : pickSync ps ≠ none := by
  cases ps with
  | nil => exact absurd rfl h
  | cons a as =>
    rcases pickSync_cons a as with e | ⟨e, h'⟩ <;> rw [e]
    · exact Option.some_ne_none a
    · exact h'

/-- Every event leaves the state alone, offers a chain to the acceptance rule, drops a peer, connects one,
or moves the honest tip to a valid chain: a property of all five holds after any step. -/
theorem step_elim {w : World} {R : AcceptRule w} {s : State} {e : Ev} {P : State → Prop}
    (same : P s)
    (acc : ∀ o, P { s with chain := R.acc s.chain o })
    (drp : ∀ p, P (drop s p))
    (con : ∀ p, e = .connect p → P { s with
      peers := s.peers ++ [p]
      sync := match s.sync with | none => pickSync (s.peers ++ [p]) | some q => some q })
    (grw : ∀ c, e = .grow c → w.valid c = true → P { s with honestTip := c }) :
    P (step w R s e) := by
  cases e with
  | connect p => rw [step]; split; exact same; exact con p rfl
  | honestReply p => rw [step]; split; exact acc _; exact same
  | byzOffer p o => rw [step]; split; exact acc _; exact same
  | stall p => rw [step]; split; exact drp _; exact same
  | disconnect p => rw [step]; split; exact drp _; exact same
  | grow c =>
    rw [step]; split
    · next h => exact grw c rfl h.1
    · exact same

theorem run_invariant {w : World} {R : AcceptRule w} {P : State → Prop}
    (hstep : ∀ s e, P s → P (step w R s e)) (evs : List Ev) (s : State) (h : P s) : P (run w R s evs) := by
  induction evs generalizing s with
  | nil => exact h
  | cons e es ih => exact ih _ (hstep s e h)

theorem step_chain (w : World) (R : AcceptRule w) (s : State) (e : Ev) :
    (step w R s e).chain = s.chain ∨
    (w.valid (step w R s e).chain = true ∧ w.work s.chain < w.work (step w R s e).chain) :=
  step_elim (P := fun t => t.chain = s.chain ∨ (w.valid t.chain = true ∧ w.work s.chain < w.work t.chain))
    (.inl rfl) (fun o => R.sound s.chain o) (fun _ => .inl rfl) (fun _ _ => .inl rfl) (fun _ _ _ => .inl rfl)

theorem step_valid (w : World) (R : AcceptRule w) (s : State) (e : Ev) (h : w.valid s.chain = true) :
    w.valid (step w R s e).chain = true :=
  (step_chain w R s e).elim (fun h1 => h1 ▸ h) (·.1)

theorem step_work (w : World) (R : AcceptRule w) (s : State) (e : Ev) :
    w.work s.chain ≤ w.work (step w R s e).chain :=
  (step_chain w R s e).elim (fun h1 => h1 ▸ Nat.le_refl _) (fun h1 => Nat.le_of_lt h1.2)

theorem drop_inv (w : World) (s : State) (p : Peer) (hi : Inv w s) : Inv w (drop s p) where
  sync_mem q hq := by
    rw [drop] at hq ⊢
    dsimp only at hq ⊢
    split at hq
    · exact pickSync_mem hq
    · next h => exact mem_remove.mpr ⟨hi.sync_mem q hq, fun he => h (he ▸ hq)⟩
  sync_some hne := by
    rw [drop] at hne ⊢
    dsimp only at hne ⊢
    split
    · exact pickSync_some hne
    · exact hi.sync_some fun he => hne (by rw [he]; rfl)
  tip_valid := hi.tip_valid

theorem step_inv (w : World) (R : AcceptRule w) (s : State) (e : Ev) (hi : Inv w s) : Inv w (step w R s e) :=
  step_elim hi (fun _ => ⟨hi.sync_mem, hi.sync_some, hi.tip_valid⟩) (fun p => drop_inv w s p hi)
    (fun p _ => by
      cases hs : s.sync with
      | none =>
        exact ⟨fun q hq => pickSync_mem hq,
          fun _ => pickSync_some (List.append_ne_nil_of_right_ne_nil _ (List.cons_ne_nil _ _)), hi.tip_valid⟩
      | some b =>
        exact ⟨fun q hq => Option.some.inj hq ▸ List.mem_append_left _ (hi.sync_mem b hs),
          fun _ => Option.some_ne_none b, hi.tip_valid⟩)
    (fun _ _ hv => ⟨hi.sync_mem, hi.sync_some, hv⟩)

theorem run_inv (w : World) (R : AcceptRule w) (evs : List Ev) (s : State) (hi : Inv w s) :
    Inv w (run w R s evs) :=
  run_invariant (step_inv w R) evs s hi

theorem Inv.sync_exists {w : World} {s : State} (hi : Inv w s) {p : Peer} (hp : p ∈ s.peers) :
    ∃ q, s.sync = some q ∧ q ∈ s.peers := by
  cases h : s.sync with
  | none => exact absurd h (hi.sync_some (List.ne_nil_of_mem hp))
  | some q => exact ⟨q, rfl, hi.sync_mem q h⟩

theorem listensTo_sync (w : World) {s : State} {q : Peer} (hs : s.sync = some q) (hq : q ∈ s.peers) :
    listensTo w s q = true := by
  simp only [listensTo, hq, hs, decide_true, Bool.true_or, Bool.and_self]

theorem step_stall (w : World) (R : AcceptRule w) (s : State) (q : Peer) (hs : s.sync = some q)
    (hb : q.beh ≠ .honest) : step w R s (.stall q) = drop s q :=
  if_pos ⟨hs, hb⟩

theorem stallSched_honest (w : World) (R : AcceptRule w) (n : Nat) {s : State} {q : Peer}
    (hs : s.sync = some q) (hb : q.beh = .honest) : stallSched w R n s = [] := by
  cases n with
  | zero => rfl
  | succ n => simp only [stallSched, hs, hb, ↓reduceIte]

theorem stallSched_stall (w : World) (R : AcceptRule w) (n : Nat) {s : State} {q : Peer}
    (hs : s.sync = some q) (hb : q.beh ≠ .honest) :
    stallSched w R (n + 1) s = .stall q :: stallSched w R n (drop s q) := by
  simp only [stallSched, hs, hb, ↓reduceIte, step_stall w R s q hs hb]

theorem stallSched_spec (w : World) (R : AcceptRule w) (n : Nat) (s : State) (hi : Inv w s)
    (hh : ∃ p ∈ s.peers, p.beh = .honest) (hn : nonHonest s.peers ≤ n) :
    let s' := run w R s (stallSched w R n s)
    (∃ q, s'.sync = some q ∧ q.beh = .honest ∧ q ∈ s'.peers) ∧
    s'.chain = s.chain ∧ s'.honestTip = s.honestTip ∧
    FairRun w R s (stallSched w R n s) ∧ (stallSched w R n s).length ≤ n ∧
    nonHonest s'.peers + (stallSched w R n s).length ≤ nonHonest s.peers := by
  obtain ⟨p, hp, hpb⟩ := hh
  obtain ⟨q, hs, hq⟩ := hi.sync_exists hp
  induction n generalizing s q with
  | zero =>
    exact ⟨⟨q, hs, nonHonest_zero_honest (Nat.le_zero.mp hn) hq, hq⟩, rfl, rfl, trivial, Nat.le_refl _, Nat.le_refl _⟩
  | succ n ih =>
    by_cases hqb : q.beh = .honest
    · rw [stallSched_honest w R _ hs hqb]
      exact ⟨⟨q, hs, hqb, hq⟩, rfl, rfl, trivial, Nat.zero_le _, Nat.le_refl _⟩
    · have hlt : nonHonest (drop s q).peers < nonHonest s.peers := nonHonest_remove_lt hq hqb
      have hp' : p ∈ (drop s q).peers := mem_remove.mpr ⟨hp, fun he => hqb (he ▸ hpb)⟩
      obtain ⟨q', hs', hq'⟩ := (drop_inv w s q hi).sync_exists hp'
      obtain ⟨h1, h2, h3, h4, h5, h6⟩ := ih (drop s q) (drop_inv w s q hi) (by omega) hp' q' hs' hq'
      rw [stallSched_stall w R n hs hqb]
      simp only [run, FairRun, step_stall w R s q hs hqb, List.length_cons]
      exact ⟨h1, h2, h3, ⟨⟨hs, hqb⟩, h4⟩, by omega, by omega⟩

theorem run_append (w : World) (R : AcceptRule w) (a b : List Ev) (s : State) :
    run w R s (a ++ b) = run w R (run w R s a) b := by
  induction a generalizing s with
  | nil => rfl
  | cons e es ih => exact ih _

theorem fairRun_append (w : World) (R : AcceptRule w) (a b : List Ev) (s : State)
    (ha : FairRun w R s a) (hb : FairRun w R (run w R s a) b) : FairRun w R s (a ++ b) := by
  induction a generalizing s with
  | nil => exact hb
  | cons e es ih => exact ⟨ha.1, ih _ ha.2 hb⟩

theorem acc_stable (w : World) (R : AcceptRule w) (c o : Chain)
    (hbest : ∀ x, w.valid x = true → w.work x ≤ w.work c) : R.acc c o = c :=
  (R.sound c o).resolve_right fun h => Nat.not_lt.mpr (hbest _ h.1) h.2

theorem acc_eq_of_best {w : World} {s : State}
    (hb : ∀ x, w.valid x = true → x ≠ s.honestTip → w.work x < w.work s.honestTip)
    (hc : s.chain = s.honestTip) (R : AcceptRule w) (o : Chain) : R.acc s.chain o = s.chain :=
  acc_stable w R _ _ fun x hx => by
    rw [hc]
    exact Decidable.byCases (fun he : x = s.honestTip => he ▸ Nat.le_refl _) (fun he => Nat.le_of_lt (hb x hx he))

/-- no event other than a connection or honest-side growth raises the rank -/
theorem rank_step_le (w : World) (R : AcceptRule w) (s : State) (e : Ev) (hq : e.quiet = true)
    (hb : ∀ x, w.valid x = true → x ≠ s.honestTip → w.work x < w.work s.honestTip) :
    rank (step w R s e) ≤ rank s :=
  step_elim (P := fun t => rank t ≤ rank s) (Nat.le_refl _)
    (fun o => Nat.add_le_add_left (by
      by_cases hc : s.chain = s.honestTip
      · rw [show R.acc s.chain o = s.honestTip from (acc_eq_of_best hb hc R o).trans hc, if_pos rfl]
        exact Nat.zero_le _
      · rw [if_neg hc]; split <;> omega) _)
    (fun p => Nat.add_le_add_right (nonHonest_remove_le p s.peers) _)
    (fun _ he => by rw [he] at hq; cases hq) (fun _ he => by rw [he] at hq; cases hq)

/-- a useful fair event lowers the rank: a stall removes a non-honest peer, a reply ends the convergence -/
theorem rank_step_lt (w : World) (R : AcceptRule w) (s : State) (e : Ev) (hi : Inv w s)
    (hv : w.valid s.chain = true)
    (hb : ∀ x, w.valid x = true → x ≠ s.honestTip → w.work x < w.work s.honestTip)
    (hu : useful w s e) : rank (step w R s e) < rank s := by
  cases e with
  | honestReply p =>
    obtain ⟨hh, hl, hne⟩ := hu
    have hacc := R.complete _ _ hi.tip_valid (hb s.chain hv hne)
    rw [step, if_pos ⟨hh, hl⟩, rank, rank, hacc, if_pos rfl, if_neg hne]
    exact Nat.lt_succ_self _
  | stall p =>
    rw [step_stall w R s p hu.1 hu.2]
    exact Nat.add_lt_add_right (nonHonest_remove_lt (hi.sync_mem p hu.1) hu.2) _
  | _ => exact hu.elim

end Neutrino.Net
