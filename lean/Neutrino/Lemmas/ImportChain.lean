/-
Lemmas for C14: what the block validator and `validateChainContinuity` establish
about the headers that get appended (connectedness, validity), the converse
direction of `validateChainContinuity` needed for the second import, and the
oracle's clauses (`Spec/Import`) on healthy stores.
-/
import Neutrino.Lemmas.Import
import Neutrino.Lemmas.ImportValidate
namespace Neutrino.Import

theorem pairsOk_connected : ∀ (l : List BHdr), pairsOk l = true → connected l = true
  | [], _ => rfl
  | [_], _ => rfl
  | a :: b :: rest, h => by
    simp only [pairsOk, Bool.and_eq_true] at h
    simp only [connected, Bool.and_eq_true]
    exact ⟨h.1.1, pairsOk_connected (b :: rest) h.2⟩

/-- every header but the first was the second element of a passed `ValidatePair` -/
theorem pairsOk_tail_valid : ∀ (l : List BHdr), pairsOk l = true → (l.drop 1).all (·.valid) = true
  | [], _ => rfl
  | [_], _ => rfl
  | a :: b :: rest, h => by
    simp only [pairsOk, Bool.and_eq_true] at h
    have ih := pairsOk_tail_valid (b :: rest) h.2
    simp only [List.drop_succ_cons, List.drop_zero, List.all_cons, Bool.and_eq_true] at ih ⊢
    exact ⟨h.1.2, ih⟩

theorem validateBlocks_pairsOk (body : List BHdr) (bs : Nat) (h : validateBlocks body bs = true) : pairsOk body = true :=
  (Bool.and_eq_true _ _ ▸ h).2

theorem all_of_sublist {α : Type} (p : α → Bool) {l' l : List α} (hs : l'.Sublist l) (h : l.all p = true) :
    l'.all p = true := by
  rw [List.all_eq_true] at h ⊢
  exact fun x hx => h x (hs.subset hx)

theorem connected_tail (x : BHdr) (xs : List BHdr) (h : connected (x :: xs) = true) : connected xs = true := by
  cases xs with
  | nil => rfl
  | cons y ys => simp only [connected, Bool.and_eq_true] at h; exact h.2

theorem connected_drop : ∀ (n : Nat) (l : List BHdr), connected l = true → connected (l.drop n) = true
  | 0, _, h => h
  | _ + 1, [], _ => rfl
  | n + 1, x :: xs, h => connected_drop n xs (connected_tail x xs h)

theorem connected_take : ∀ (n : Nat) (l : List BHdr), connected l = true → connected (l.take n) = true
  | 0, _, _ => rfl
  | _ + 1, [], _ => rfl
  | _ + 1, [_], _ => by simp [connected]
  | 0 + 1, _ :: _ :: _, _ => rfl
  | n + 1 + 1, x :: y :: rest, h => by
    simp only [connected, Bool.and_eq_true] at h
    have ih := connected_take (n + 1) (y :: rest) h.2
    simp only [List.take_succ_cons, connected, Bool.and_eq_true] at ih ⊢
    exact ⟨h.1, ih⟩

theorem connected_append : ∀ (l1 l2 : List BHdr), connected l1 = true → connected l2 = true →
    (∀ p c, l1.getLast? = some p → l2.head? = some c → c.prev = p.id) → connected (l1 ++ l2) = true
  | [], _, _, h2, _ => h2
  | [_], [], _, _, _ => rfl
  | [x], c :: l2, _, h2, h => by
    simp only [List.singleton_append, connected, Bool.and_eq_true, beq_iff_eq]
    exact ⟨h x c rfl rfl, h2⟩
  | x :: y :: rest, l2, h1, h2, h => by
    simp only [connected, Bool.and_eq_true] at h1
    have ih := connected_append (y :: rest) l2 h1.2 h2 fun p c hp hc =>
      h p c (by rw [List.getLast?_cons_cons]; exact hp) hc
    simp only [List.cons_append, connected, Bool.and_eq_true] at ih ⊢
    exact ⟨h1.1, ih⟩

theorem nodup_ids_idx {l : List BHdr} (h : (l.map (·.id)).Nodup) {i j : Nat} {x y : BHdr}
    (hi : l[i]? = some x) (hj : l[j]? = some y) (hij : i < j) : x.id ≠ y.id := by
  obtain ⟨hi', rfl⟩ := List.getElem?_eq_some_iff.mp hi
  obtain ⟨hj', rfl⟩ := List.getElem?_eq_some_iff.mp hj
  rw [List.Nodup, List.pairwise_iff_getElem] at h
  have := h i j (by simpa using hi') (by simpa using hj') hij
  simpa using this

theorem verifyBlockAt_true {F : File} {st : Stores} {h : Nat} (hv : verifyBlockAt F st h = true) :
    ∃ a b, F.blocks[h - F.bstart]? = some a ∧ st.blocks[h]? = some b ∧ a.id = b.id := by
  unfold verifyBlockAt at hv
  split at hv
  · exact ⟨_, _, ‹_›, ‹_›, beq_iff_eq.mp hv⟩
  · cases hv

theorem connects_true {F : File} {st : Stores} {t p : Nat} (hc : connects F st t p = true) :
    ∃ q c, st.blocks[p]? = some q ∧ F.blocks[t - F.bstart]? = some c ∧ c.prev = q.id := by
  unfold connects at hc
  split at hc
  · exact ⟨_, _, ‹_›, ‹_›, beq_iff_eq.mp hc⟩
  · cases hc

/-- the file starts at or below both tips: its first height and the overlap's last height `oe`
must agree with the stores, and the header above `oe`, if there is one, must link to the block tip -/
theorem continuity_overlap_iff (F : File) (B : List BHdr) (Fl : List Nat) (oe : Nat) (hB : B.length ≥ 1) (hF : Fl.length ≥ 1)
    (hs : F.bstart ≤ min (B.length - 1) (Fl.length - 1))
    (hoe : min (min (B.length - 1) (Fl.length - 1)) (endHeight F) = oe) :
    continuity F (mk B Fl) = none ↔
      verifyAt F (mk B Fl) .both F.bstart = true ∧ (F.bstart < oe → verifyAt F (mk B Fl) .both oe = true) ∧
      (oe < endHeight F → connects F (mk B Fl) (oe + 1) (B.length - 1) = true) := by
  unfold continuity
  rw [bChainTip_mk B Fl hB, fChainTip_mk B Fl hF]
  subst hoe
  simp only [gt_iff_lt, Nat.not_lt.mpr hs, Nat.not_lt.mpr (Nat.le_succ_of_le hs), ↓reduceIte, ite_some_eq_none,
    Bool.and_eq_true, decide_eq_true_eq, Bool.not_eq_true', not_and, Bool.not_eq_false, and_true]

/-- the oracle's sampled-agreement clause is what `validateChainContinuity` checks -/
theorem sample_of_continuity (F : File) (B : List BHdr) (Fl : List Nat) (hB : B.length ≥ 1) (hF : Fl.length ≥ 1)
    (hne : F.blocks.length ≥ 1) (hc : continuity F (mk B Fl) = none) : sampleOk (obsOf (mk B Fl)) F = true := by
  have hag : ∀ h, agreeAt (obsOf (mk B Fl)) F h = verifyAt F (mk B Fl) .both h := fun _ => rfl
  unfold sampleOk
  simp only [obsOf_mk_blocks, obsOf_mk_filters, hag]
  split
  · rename_i hs
    obtain ⟨h1, h2, _⟩ := (continuity_overlap_iff F B Fl _ hB hF hs rfl).mp hc
    rw [h1, Bool.true_and]
    by_cases hgt : F.bstart < min (min (B.length - 1) (Fl.length - 1)) (endHeight F)
    · exact h2 hgt
    · rw [Nat.le_antisymm (Nat.le_of_not_lt hgt) (Nat.le_min.mpr ⟨hs, bstart_le_endHeight F hne⟩)]
      exact h1
  · rfl

theorem verifyAt_append_old (F : File) (B D : List BHdr) (Fl D' : List Nat) (v : Verify) (h : Nat)
    (hb : h < B.length) (hf : h < Fl.length) :
    verifyAt F (mk (B ++ D) (Fl ++ D')) v h = verifyAt F (mk B Fl) v h := by
  have e1 : (mk (B ++ D) (Fl ++ D')).blocks[h]? = (mk B Fl).blocks[h]? := List.getElem?_append_left hb
  have e2 : (mk (B ++ D) (Fl ++ D')).filters[h]? = (mk B Fl).filters[h]? := List.getElem?_append_left hf
  cases v <;> simp only [verifyAt, verifyBlockAt, verifyFilterAt, e1, e2]

theorem getElem?_append_drop {α : Type} (B l : List α) {h : Nat} (hh : B.length ≤ h) :
    (B ++ l.drop B.length)[h]? = l[h]? := by
  rw [List.getElem?_append_right hh, List.getElem?_drop, Nat.add_sub_of_le hh]

/-- at a height the import has just filled from the file, file and stores agree -/
theorem verifyAt_appended (F : File) (B : List BHdr) (Fl : List Nat) (h : Nat)
    (hs : F.bstart = 0) (hF : Fl.length = B.length) (hN : F.filters.length = F.blocks.length)
    (ha : B.length ≤ h) (hh : h < F.blocks.length) :
    verifyAt F (mk (B ++ F.blocks.drop B.length) (Fl ++ F.filters.drop B.length)) .both h = true := by
  have e1 : (mk (B ++ F.blocks.drop B.length) (Fl ++ F.filters.drop B.length)).blocks[h]? = some F.blocks[h] :=
    (getElem?_append_drop B F.blocks ha).trans (List.getElem?_eq_getElem hh)
  have e2 : (mk (B ++ F.blocks.drop B.length) (Fl ++ F.filters.drop B.length)).filters[h]? = some (F.filters[h]'(hN ▸ hh)) := by
    show (Fl ++ F.filters.drop B.length)[h]? = _
    rw [← hF, getElem?_append_drop Fl F.filters (hF ▸ ha), List.getElem?_eq_getElem]
  simp only [verifyAt, verifyBlockAt, verifyFilterAt, e1, e2, hs, Nat.sub_zero, List.getElem?_eq_getElem hh,
    List.getElem?_eq_getElem (hN ▸ hh), beq_self_eq_true, Bool.and_self]

/-- after a successful import into level stores (outside the recorded shape F7) the
same file passes `validateChainContinuity` against the new stores -/
theorem continuity_after_success (F : File) (B : List BHdr) (Fl : List Nat)
    (hs : F.bstart = 0 ∨ endHeight F ≤ B.length - 1) (hl : B.length ≥ 1) (heq : Fl.length = B.length)
    (hmeta : metaOk F = true) (hc : continuity F (mk B Fl) = none) :
    continuity F (mk (B ++ F.blocks.drop (B.length - F.bstart)) (Fl ++ F.filters.drop (B.length - F.bstart))) = none := by
  obtain ⟨hN, hne⟩ := metaOk_lengths F hmeta
  rcases hs with hs | hcov
  · rw [hs, Nat.sub_zero]
    have hold := (continuity_overlap_iff F B Fl (min (B.length - 1) (endHeight F)) hl (heq ▸ hl) (hs ▸ Nat.zero_le _)
      (by rw [heq, Nat.min_self])).mp hc
    have he : endHeight F + 1 = F.blocks.length := by rw [endHeight, hs, Nat.zero_add, Nat.sub_add_cancel hne]
    have hcov := extended_covers F B Fl heq hmeta (hs ▸ Nat.zero_le _)
    rw [hs, Nat.sub_zero] at hcov
    -- the new stores reach the file's last height, which is where the overlap now ends
    refine (continuity_overlap_iff F _ _ (endHeight F) (one_le_length_append _ hl) (one_le_length_append _ (heq ▸ hl))
      (hs ▸ Nat.zero_le _) (Nat.min_eq_right hcov)).mpr ⟨?_, fun hgt => ?_, fun hlt => absurd hlt (Nat.lt_irrefl _)⟩
    · rw [hs, verifyAt_append_old F B _ Fl _ .both 0 hl (heq ▸ hl), ← hs]
      exact hold.1
    · by_cases hcase : endHeight F < B.length
      · rw [verifyAt_append_old F B _ Fl _ .both _ hcase (heq ▸ hcase)]
        rw [Nat.min_eq_right (Nat.le_sub_one_of_lt hcase)] at hold
        exact hold.2.1 hgt
      · exact verifyAt_appended F B Fl (endHeight F) hs heq hN (Nat.le_of_not_lt hcase) (he ▸ Nat.lt_succ_self _)
  · have hle := covered_length F hl hcov
    rw [List.drop_eq_nil_of_le hle, List.drop_eq_nil_of_le (hN ▸ hle), List.append_nil, List.append_nil]
    exact hc

/-- a file from height 0 that passed `validateChainContinuity` and the block validator: every prefix
of its headers above the tip is pair-validated and continues the stored chain -/
theorem chain_level_take (F : File) (bs : Nat) (B : List BHdr) (Fl : List Nat) (j : Nat)
    (hs : F.bstart = 0) (hl : B.length ≥ 1) (heq : Fl.length = B.length)
    (hc : continuity F (mk B Fl) = none) (hv : validateBlocks F.blocks bs = true) :
    ((F.blocks.drop B.length).take j).all (·.valid) = true ∧
    (connected B = true → connected (B ++ (F.blocks.drop B.length).take j) = true) := by
  have hpairs := validateBlocks_pairsOk _ _ hv
  have hvalid : (F.blocks.drop B.length).all (·.valid) = true := by
    rw [← Nat.add_sub_of_le hl, ← List.drop_drop]
    exact all_of_sublist _ (List.drop_sublist _ _) (pairsOk_tail_valid _ hpairs)
  refine ⟨all_of_sublist _ (List.take_sublist _ _) hvalid, fun hcb => connected_append _ _ hcb
    (connected_take _ _ (connected_drop _ _ (pairsOk_connected _ hpairs))) fun p c hp hc1 => ?_⟩
  -- `c` is the file's header at height `B.length`, `p` the stored tip: `validateHeaderConnection` compared them
  rw [List.head?_take] at hc1
  split at hc1
  · cases hc1
  rw [List.head?_drop] at hc1
  have hlt : B.length - 1 < endHeight F := by
    rw [endHeight, hs, Nat.zero_add]
    exact Nat.sub_lt_sub_right hl (List.getElem?_eq_some_iff.mp hc1).1
  obtain ⟨q, c', hq, hc', hlink⟩ := connects_true (((continuity_overlap_iff F B Fl (B.length - 1) hl (heq ▸ hl)
    (hs ▸ Nat.zero_le _) (by rw [heq, Nat.min_self, Nat.min_eq_left (Nat.le_of_lt hlt)])).mp hc).2.2 hlt)
  rw [Nat.sub_add_cancel hl, hs, Nat.sub_zero, hc1] at hc'
  rw [show (mk B Fl).blocks = B from rfl, ← List.getLast?_eq_getElem?, hp] at hq
  cases hc'; cases hq
  exact hlink

/-- **The block-ahead rejection.**  Block store ahead of the filter store (ids
pairwise distinct), file from height 0 reaching above the filter tip: one of
`validateChainContinuity` and the block validator must fail.  The connection
check compares the file's header at `filterTip+1` with the block store's TIP
(`validateHeaderConnection(overlapEnd+1, blockTipHeight)`), while the validator
and the overlap check tie the same header to the block at `filterTip`. -/
theorem block_ahead_checks_fail (F : File) (bs : Nat) (B : List BHdr) (Fl : List Nat)
    (hs : F.bstart = 0) (hF : Fl.length ≥ 1) (hahead : Fl.length < B.length)
    (hnd : (B.map (·.id)).Nodup) (hreach : endHeight F > Fl.length - 1)
    (hc : continuity F (mk B Fl) = none) (hv : validateBlocks F.blocks bs = true) : False := by
  obtain ⟨h0, h1, h2⟩ := (continuity_overlap_iff F B Fl (Fl.length - 1) (Nat.le_trans hF (Nat.le_of_lt hahead)) hF
    (hs ▸ Nat.zero_le _) (by rw [Nat.min_eq_right (Nat.sub_le_sub_right (Nat.le_of_lt hahead) 1),
      Nat.min_eq_left (Nat.le_of_lt hreach)])).mp hc
  -- the header at the filter tip agrees with the block store
  have hvb : verifyBlockAt F (mk B Fl) (Fl.length - 1) = true := by
    by_cases hz : F.bstart < Fl.length - 1
    · exact (Bool.and_eq_true _ _ ▸ h1 hz).1
    · rw [Nat.le_antisymm (Nat.le_of_not_lt hz) (hs ▸ Nat.zero_le _)]
      exact (Bool.and_eq_true _ _ ▸ h0).1
  obtain ⟨x, y, hx, hy, hxy⟩ := verifyBlockAt_true hvb
  obtain ⟨p, c, hp, hcc, hpc⟩ := connects_true (h2 hreach)
  rw [hs, Nat.sub_zero] at hx hcc
  have hlink : c.prev = x.id := by
    have := pairsOk_pair F.blocks (Fl.length - 1) x c (validateBlocks_pairsOk _ _ hv) hx hcc
    simp only [pairOk, Bool.and_eq_true, beq_iff_eq] at this
    exact this.1
  exact nodup_ids_idx hnd hy hp (Nat.sub_lt_sub_right hF hahead) (by rw [← hxy, ← hlink, hpc])

/-- block tip above the filter tip, file reaching above the filter tip: there is a divergence region -/
theorem regions_ahead_exists (F : File) {b f : Nat} (hfb : f < b) (hfe : f < endHeight F) :
    (regions F b f).1.exists = true := by
  simp only [regions, Nat.min_eq_right (Nat.le_of_lt hfb), Nat.max_eq_left (Nat.le_of_lt hfb), Bool.and_eq_true,
    decide_eq_true_eq]
  exact ⟨Nat.ne_of_gt hfb, Nat.le_min.mpr ⟨hfb, hfe⟩⟩

/-- block store ahead, outside the recorded shape: the stores are never touched, and the import
succeeds only if the file ends at or below the filter tip -/
theorem importRun_block_ahead (F : File) (cfg : Cfg) (B : List BHdr) (Fl : List Nat) (hF : Fl.length ≥ 1)
    (hahead : Fl.length < B.length) (hnd : (B.map (·.id)).Nodup) (hshape : F.bstart = 0 ∨ endHeight F ≤ Fl.length - 1) :
    (importRun F cfg (mk B Fl)).2.st = mk B Fl ∧
    ((importRun F cfg (mk B Fl)).1 = none → metaOk F = true ∧ endHeight F ≤ Fl.length - 1) := by
  have hB : B.length ≥ 1 := Nat.le_trans hF (Nat.le_of_lt hahead)
  by_cases hreach : endHeight F ≤ Fl.length - 1
  · have hcov := importRun_covered_gen F cfg B Fl hB hF
      (by rw [Nat.min_eq_right (Nat.sub_le_sub_right (Nat.le_of_lt hahead) 1)]; exact hreach)
    exact ⟨hcov.1, fun hn => ⟨preChecks_none F (hcov.2.mp hn).1, hreach⟩⟩
  · have hs : F.bstart = 0 := hshape.resolve_right hreach
    have hfail := fun hc hv => block_ahead_checks_fail F cfg.bs B Fl hs hF hahead hnd (Nat.lt_of_not_le hreach) hc hv
    refine ⟨Decidable.by_contra fun hch => ?_, fun hn => ?_⟩
    · obtain ⟨_, hc, hv, _⟩ := importRun_written_validated F cfg _ hch
      exact hfail hc hv
    · have hacc := importRun_ok_facts F cfg _ hn
      cases hcan : cancelled cfg (2 * valBatches F cfg) with
      | false => exact (hfail hacc.2.1 (validatedBody_full F cfg hcan ▸ hacc.2.2)).elim
      | true =>
        -- only partly validated, but the write loop sees the cancellation, and it has a region to write
        rw [importRun_eq_regions F cfg (mk B Fl) _ _ hacc (bChainTip_mk B Fl hB) (fChainTip_mk B Fl hF)] at hn
        exact ((processRegions_cancelled F cfg _ _ _ hcan).2
          (Or.inl (regions_ahead_exists F (Nat.sub_lt_sub_right hF hahead) (Nat.lt_of_not_le hreach))) hn).elim

theorem chainOk_self (o : Obs) : chainOk o o = true := by
  simp only [chainOk, List.drop_length, List.all_nil, Bool.and_true]
  cases connected o.blocks <;> rfl

theorem chainOk_mk (B D : List BHdr) (Fl Fl' : List Nat) (hv : D.all (·.valid) = true)
    (hc : connected B = true → connected (B ++ D) = true) :
    chainOk (obsOf (mk B Fl)) (obsOf (mk (B ++ D) Fl')) = true := by
  simp only [chainOk, obsOf_mk_blocks, List.drop_left', hv, Bool.and_true]
  cases hcb : connected B with
  | false => rfl
  | true => exact hc hcb

/-- the chain clause, success or failure, for level stores outside the recorded shape F7: whatever
was written had passed every check (`importRun_written_validated`), and it is a prefix of the file's
headers above the tip -/
theorem chainOk_level (F : File) (cfg : Cfg) (B : List BHdr) (Fl : List Nat) (hbs : cfg.bs ≥ 1)
    (hB : B.length ≥ 1) (hF : Fl.length = B.length) (hs : F.bstart = 0 ∨ endHeight F ≤ B.length - 1) :
    chainOk (obsOf (mk B Fl)) (obsOf (importRun F cfg (mk B Fl)).2.st) = true := by
  by_cases hch : (importRun F cfg (mk B Fl)).2.st = mk B Fl
  · rw [hch]; exact chainOk_self _
  obtain ⟨_, hc, hv, _⟩ := importRun_written_validated F cfg _ hch
  obtain ⟨j, hj⟩ := (importRun_level F cfg B Fl hbs hB hF hs).prefix
  rcases hs with hs | he
  · rw [hs, Nat.sub_zero] at hj
    obtain ⟨hval, hconn⟩ := chain_level_take F cfg.bs B Fl j hs hB hF hc hv
    rw [hj]
    exact chainOk_mk B _ Fl _ hval hconn
  · exact absurd (importRun_covered_gen F cfg B Fl hB (hF ▸ hB) (by rw [hF, Nat.min_self]; exact he)).1 hch

/-- the contents part of the success clause: each store extended by what the file holds from its height on -/
theorem contentOk_mk (F : File) (B : List BHdr) (Fl : List Nat) (hB : B.length ≥ 1) (hF : Fl.length ≥ 1)
    (hmeta : metaOk F = true) (hgB : F.bstart ≤ B.length) (hgF : F.bstart ≤ Fl.length) :
    contentOk (obsOf (mk B Fl)) F
      (obsOf (mk (B ++ F.blocks.drop (B.length - F.bstart)) (Fl ++ F.filters.drop (Fl.length - F.bstart)))) = true := by
  have hu := usable_mk (B ++ F.blocks.drop (B.length - F.bstart)) (Fl ++ F.filters.drop (Fl.length - F.bstart))
    (one_le_length_append _ hB) (one_le_length_append _ hF)
  simp only [contentOk, hmeta, hu, obsOf_mk_blocks, obsOf_mk_filters, extend, hgB, hgF, decide_true, Bool.and_self,
    beq_self_eq_true]

/-- the contents part of the failure clause: level stores extended by the same number of file entries
from their height on (any at all only for a well-formed file that leaves no gap) -/
theorem failContentOk_append (F : File) (B X : List BHdr) (Fl Y : List Nat) (hB : B.length ≥ 1) (hF : Fl.length = B.length)
    (hlen : Y.length = X.length) (hX : (F.blocks.drop (B.length - F.bstart)).take X.length = X)
    (hY : (F.filters.drop (B.length - F.bstart)).take X.length = Y)
    (hgrow : X.length = 0 ∨ metaOk F = true ∧ F.bstart ≤ B.length) :
    failContentOk (obsOf (mk B Fl)) F (obsOf (mk (B ++ X) (Fl ++ Y))) = true := by
  have hu := usable_mk (B ++ X) (Fl ++ Y) (one_le_length_append _ hB) (one_le_length_append _ (hF ▸ hB))
  have hg : (decide (X.length = 0) || (metaOk F && decide (F.bstart ≤ B.length))) = true := by
    rcases hgrow with h | ⟨hm, hg⟩
    · rw [decide_eq_true h]; rfl
    · rw [hm, decide_eq_true hg]; exact Bool.or_true _
  simp only [failContentOk, hu, obsOf_mk_blocks, obsOf_mk_filters, List.length_append, hF, hlen, Nat.add_sub_cancel_left,
    hX, hY, Nat.le_refl, Nat.le_add_right, Nat.add_eq_left, beq_self_eq_true, decide_true, hg, Bool.or_true, Bool.and_self,
    Bool.true_and, Bool.and_true]
  exact hg

theorem take_length_take {α : Type} (l : List α) (j : Nat) : l.take (l.take j).length = l.take j := by
  rw [List.length_take, ← List.take_take, List.take_length]

theorem prefix_lengths (F : File) (a j : Nat) (hj : j = 0 ∨ metaOk F = true) :
    ((F.filters.drop a).take j).length = ((F.blocks.drop a).take j).length := by
  rcases hj with rfl | hm
  · rfl
  · rw [List.length_take, List.length_take, List.length_drop, List.length_drop, (metaOk_lengths F hm).1]

theorem failContent_mk (F : File) (B : List BHdr) (Fl : List Nat) (j : Nat) (hB : B.length ≥ 1) (hF : Fl.length = B.length)
    (hj : j = 0 ∨ metaOk F = true ∧ F.bstart ≤ B.length) :
    failContentOk (obsOf (mk B Fl)) F
      (obsOf (mk (B ++ (F.blocks.drop (B.length - F.bstart)).take j) (Fl ++ (F.filters.drop (B.length - F.bstart)).take j))) = true := by
  have hsame := prefix_lengths F (B.length - F.bstart) j (hj.imp_right And.left)
  refine failContentOk_append F B _ Fl _ hB hF hsame (take_length_take _ j) (hsame ▸ take_length_take _ j) ?_
  exact hj.imp_left fun h => by rw [h]; rfl

theorem failContent_unchanged (F : File) (B : List BHdr) (Fl : List Nat) (hB : B.length ≥ 1) (hF : Fl.length ≥ 1)
    (hle : Fl.length ≤ B.length) : failContentOk (obsOf (mk B Fl)) F (obsOf (mk B Fl)) = true := by
  simp only [failContentOk, usable_mk B Fl hB hF, obsOf_mk_blocks, obsOf_mk_filters, Nat.sub_self, List.take_zero,
    List.append_nil, beq_self_eq_true, hle, Nat.le_refl, decide_true, Bool.or_true, Bool.true_or, Bool.and_self]

end Neutrino.Import
