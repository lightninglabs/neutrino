/-
The skip-list height arithmetic the CODE defines (Gen/TransBM.lean, regenerated from
headerlist/header_list.go on every run) is the model's (`HL.lowOff`, `HL.gah`) on every
non-negative height.
-/
import Neutrino.Gen.TransBM
import Neutrino.Model.HeaderList
namespace Neutrino.HL
open Neutrino.Gen.TransBM Neutrino.GoInt

/-- **`invertLowestOne` is `lowOff`** (`n & (n-1)`; at `n = 0` the code computes `0 & -1 = 0`, the
model `0 &&& (0 - 1) = 0` with truncated subtraction) -/
theorem trans_invertLowestOne (n : Nat) : invertLowestOne (n : Int) = ((lowOff n : Nat) : Int) := by
  cases n with
  | zero => rfl
  | succ k =>
    have : ((k + 1 : Nat) : Int) - 1 = (k : Int) := Int.add_sub_cancel (k : Int) 1
    rw [invertLowestOne, this, iand_natCast, lowOff, Nat.add_sub_cancel]

/-- **`getAncestorHeight` is `gah`** on every non-negative height -/
theorem trans_getAncestorHeight (h : Nat) : getAncestorHeight (h : Int) = ((gah h : Nat) : Int) := by
  unfold getAncestorHeight gah
  cases h with
  | zero => rfl
  | succ k => simp only [if_pos (Int.natCast_pos.mpr (Nat.succ_pos k)), trans_invertLowestOne]

theorem trans_getAncestorHeight_nonpos (h : Int) (h0 : h ≤ 0) : getAncestorHeight h = 0 :=
  if_neg (Int.not_lt.mpr h0)

end Neutrino.HL
