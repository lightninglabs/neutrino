/- C09, nothing missed: a caller that replays what the rescan reports (`callerRun`) stays below the rescan
(`Inv`: its watch set is contained in the rescan's, it scans only if the rescan does), and every transition
of the model reports at least what such a caller is owed (`Good`). -/
import Neutrino.Spec.Rescan
import Neutrino.Lemmas.RescanEqns
namespace Neutrino.Rescan

/-- an input of a world transaction that spends an output created in the world carries that output's script -/
def WorldOk (W : World) : Prop :=
  ∀ b t i b' t' o, t ∈ W.txs b → i ∈ t.ins → t' ∈ W.txs b' → t'.id = i.op.tx → t'.outs[i.op.idx]? = some o → i.script = o

/-- a watched input carries the script of the output it names (what BIP158 puts into the filter for a spend of it) -/
def Truthful (W : World) (ins : List WIn) : Prop :=
  ∀ wi, wi ∈ ins → ∀ b t i, t ∈ W.txs b → i ∈ t.ins → i.op = wi.1 → i.script = wi.2

/-- the watch list covers every watched address script and every watched input's script -/
def WatchOk (w : Watch) : Prop := (∀ a, a ∈ w.addrs → a ∈ w.wl) ∧ (∀ wi, wi ∈ w.inputs → wi.2 ∈ w.wl)

def UpdTruthful (W : World) (evs : List Ev) : Prop := ∀ u, Ev.update u ∈ evs → Truthful W u.inputs

/-- caller's watch set is contained in the rescan's -/
def WatchLe (a b : Watch) : Prop := (∀ x, x ∈ a.addrs → x ∈ b.addrs) ∧ (∀ x, x ∈ a.inputs → x ∈ b.inputs)

/-- the outpoints the output loop adds: the outputs of transaction `txid`, numbered from `i`, that pay one of `addrs` -/
def paid (addrs : List Script) (txid i : Nat) (os : List Script) : List WIn :=
  ((os.zipIdx i).filter fun p => addrs.contains p.1).map fun p => (⟨txid, p.2⟩, p.1)

/-- the watched addresses never change, so every output is tested against the same list -/
theorem paysOuts_eq (txid : Nat) (os : List Script) (i : Nat) (w : Watch) :
    paysOuts txid i os w =
      (!(paid w.addrs txid i os).isEmpty,
       { w with inputs := w.inputs ++ paid w.addrs txid i os, wl := w.wl ++ (paid w.addrs txid i os).map (·.2) }) := by
  induction os generalizing i w with
  | nil =>
    simp only [paysOuts, paid, List.zipIdx_nil, List.filter_nil, List.map_nil, List.isEmpty_nil, Bool.not_true,
      List.append_nil]
  | cons o os ih =>
    rw [paysOuts, paid, List.zipIdx_cons, List.filter_cons]
    split
    · simp only [ih, paid, List.map_cons, List.isEmpty_cons, Bool.not_false, List.append_assoc, List.cons_append,
        List.nil_append]
    · exact ih (i + 1) w

theorem paysOuts_addrs (txid : Nat) (os : List Script) (i : Nat) (w : Watch) :
    (paysOuts txid i os w).2.addrs = w.addrs := by
  rw [paysOuts_eq]

theorem paid_mono {a1 a2 : List Script} (h : ∀ x, x ∈ a1 → x ∈ a2) (txid i : Nat) (os : List Script) (x : WIn)
    (hx : x ∈ paid a1 txid i os) : x ∈ paid a2 txid i os := by
  simp only [paid, List.mem_map, List.mem_filter, List.contains_iff_mem] at hx ⊢
  obtain ⟨p, ⟨h1, h2⟩, rfl⟩ := hx
  exact ⟨p, ⟨h1, h _ h2⟩, rfl⟩

/-- outpoints created by the transactions `ts` that pay one of `addrs` -/
def created (addrs : List Script) (ts : List Tx) : List WIn := ts.flatMap fun t => paid addrs t.id 0 t.outs

theorem mem_created {addrs : List Script} {ts : List Tx} {x : WIn} :
    x ∈ created addrs ts ↔ x.2 ∈ addrs ∧ ∃ t, t ∈ ts ∧ t.id = x.1.tx ∧ t.outs[x.1.idx]? = some x.2 := by
  simp only [created, paid, List.mem_flatMap, List.mem_map, List.mem_filter, List.mem_zipIdx_iff_getElem?,
    List.contains_iff_mem]
  constructor
  · rintro ⟨t, ht, p, ⟨h1, h2⟩, rfl⟩
    exact ⟨h2, t, ht, rfl, h1⟩
  · rintro ⟨h1, t, ht, h2, h3⟩
    exact ⟨t, ht, (x.2, x.1.idx), ⟨h3, h1⟩, by rw [h2]⟩

/-- `extractBlockMatches` only ever appends to `watchInputs` and, with each outpoint, its script to `watchList` -/
theorem scanTxs_snd (ts : List Tx) (w : Watch) :
    (scanTxs ts w).2 =
      { w with inputs := w.inputs ++ created w.addrs ts, wl := w.wl ++ (created w.addrs ts).map (·.2) } := by
  induction ts generalizing w with
  | nil => simp only [scanTxs, created, List.flatMap_nil, List.map_nil, List.append_nil]
  | cons t ts ih =>
    simp only [scanTxs, pays, ih, paysOuts_eq, created, List.flatMap_cons, List.map_append, List.append_assoc]

theorem WatchLe.refl (w : Watch) : WatchLe w w := ⟨fun _ h => h, fun _ h => h⟩

theorem WatchLe.trans {a b c : Watch} (h1 : WatchLe a b) (h2 : WatchLe b c) : WatchLe a c :=
  ⟨fun x h => h2.1 x (h1.1 x h), fun x h => h2.2 x (h1.2 x h)⟩

theorem subList_iff (a b : List Nat) : subList a b = true ↔ ∀ x, x ∈ a → x ∈ b := by
  simp only [subList, List.all_eq_true, List.contains_iff_mem]

theorem spends_mono (i1 i2 : List WIn) (t : Tx) (h : ∀ x, x ∈ i1 → x ∈ i2)
    (hs : spends i1 t = true) : spends i2 t = true := by
  simp only [spends, List.any_eq_true] at hs ⊢
  obtain ⟨i, hi, wi, hwi, he⟩ := hs
  exact ⟨i, hi, wi, h wi hwi, he⟩

theorem scanTxs_ext (ts : List Tx) (w : Watch) : WatchLe w (scanTxs ts w).2 := by
  rw [scanTxs_snd]
  exact ⟨fun _ h => h, fun _ h => List.mem_append_left _ h⟩

theorem scanTxs_le (ts : List Tx) (w1 w2 : Watch) (h : WatchLe w1 w2) :
    WatchLe (scanTxs ts w1).2 (scanTxs ts w2).2 := by
  rw [scanTxs_snd, scanTxs_snd]
  refine ⟨h.1, fun x hx => ?_⟩
  rcases List.mem_append.mp hx with hx | hx
  · exact List.mem_append_left _ (h.2 x hx)
  · obtain ⟨t, ht, hx⟩ := List.mem_flatMap.mp hx
    exact List.mem_append_right _ (List.mem_flatMap.mpr ⟨t, ht, paid_mono h.1 _ _ _ x hx⟩)

theorem scanTxs_mono (ts : List Tx) (w1 w2 : Watch) (h : WatchLe w1 w2) :
    ∀ x, x ∈ (scanTxs ts w1).1 → x ∈ (scanTxs ts w2).1 := by
  have mem_ite : ∀ (c : Bool) (a x : Nat) (l : List Nat), x ∈ (if c then a :: l else l) ↔ c = true ∧ x = a ∨ x ∈ l := by
    intro c a x l
    cases c <;> simp only [Bool.false_eq_true, ↓reduceIte, false_and, false_or, List.mem_cons, true_and]
  induction ts generalizing w1 w2 with
  | nil => exact fun _ h => h
  | cons t ts ih =>
    have hp : WatchLe (pays t w1).2 (pays t w2).2 := scanTxs_le [t] w1 w2 h
    intro x
    simp only [scanTxs, mem_ite]
    refine Or.imp (And.imp_left fun hc => ?_) (ih _ _ hp x)
    rcases (Bool.or_eq_true _ _ ▸ hc) with hc | hc
    · rw [spends_mono _ _ t h.2 hc, Bool.true_or]
    · rw [pays, paysOuts_eq] at hc ⊢
      obtain ⟨x, hx⟩ := List.isEmpty_eq_false_iff_exists_mem.mp (Bool.not_eq_true' _ ▸ hc)
      rw [List.isEmpty_eq_false_iff_exists_mem.mpr ⟨x, paid_mono h.1 _ _ _ x hx⟩, Bool.not_false, Bool.or_true]

theorem scanTxs_ok (ts : List Tx) (w : Watch) (h : WatchOk w) : WatchOk (scanTxs ts w).2 := by
  rw [scanTxs_snd]
  refine ⟨fun a ha => List.mem_append_left _ (h.1 a ha), fun wi hwi => ?_⟩
  rcases List.mem_append.mp hwi with hwi | hwi
  · exact List.mem_append_left _ (h.2 wi hwi)
  · exact List.mem_append_right _ (List.mem_map_of_mem hwi)

theorem scanTxs_truthful (W : World) (hW : WorldOk W) (b : Nat) (ts : List Tx)
    (hts : ∀ t, t ∈ ts → t ∈ W.txs b) (w : Watch) (h : Truthful W w.inputs) :
    Truthful W (scanTxs ts w).2.inputs := by
  rw [scanTxs_snd]
  intro wi hwi b' t' i' ht' hi' hop
  rcases List.mem_append.mp hwi with hwi | hwi
  · exact h wi hwi b' t' i' ht' hi' hop
  · obtain ⟨-, t, ht, hid, ho⟩ := mem_created.mp hwi
    exact hW b' t' i' b t wi.2 ht' hi' (hts t ht) (hop ▸ hid) (hop ▸ ho)

theorem mem_filterElems_out (W : World) (b : Nat) (t : Tx) (ht : t ∈ W.txs b) (o : Script)
    (ho : o ∈ t.outs) : o ∈ filterElems W b := by
  simp only [filterElems, List.mem_flatMap, List.mem_append]
  exact ⟨t, ht, Or.inl ho⟩

theorem mem_filterElems_in (W : World) (b : Nat) (t : Tx) (ht : t ∈ W.txs b) (i : TxIn)
    (hi : i ∈ t.ins) : i.script ∈ filterElems W b := by
  simp only [filterElems, List.mem_flatMap, List.mem_append, List.mem_map]
  exact ⟨t, ht, Or.inr ⟨i, hi, rfl⟩⟩

theorem trueMatch_false (W : World) (wl : List Script) (b : Nat) (h : trueMatch W wl b = false) :
    ∀ s, s ∈ wl → ¬ s ∈ filterElems W b := by
  intro s hs hm
  rw [trueMatch, List.any_eq_false] at h
  exact h s hs (List.contains_iff_mem.mpr hm)

theorem paysOuts_none (txid : Nat) (os : List Script) (i : Nat) (w : Watch)
    (h : ∀ o, o ∈ os → ¬ o ∈ w.addrs) : paysOuts txid i os w = (false, w) := by
  induction os generalizing i with
  | nil => rfl
  | cons o os ih =>
    have h1 : w.addrs.contains o = false := by
      cases hc : w.addrs.contains o with
      | false => rfl
      | true => exact absurd (List.contains_iff_mem.mp hc) (h o List.mem_cons_self)
    simp only [paysOuts, h1, ↓reduceIte, Bool.false_eq_true]
    exact ih (i + 1) (fun o' ho' => h o' (List.mem_cons_of_mem _ ho'))

theorem spends_none (W : World) (b : Nat) (w : Watch) (hm : trueMatch W w.wl b = false)
    (hok : WatchOk w) (htr : Truthful W w.inputs) (t : Tx) (ht : t ∈ W.txs b) :
    spends w.inputs t = false := by
  cases hs : spends w.inputs t with
  | false => rfl
  | true =>
    simp only [spends, List.any_eq_true, beq_iff_eq] at hs
    obtain ⟨i, hi, wi, hwi, he⟩ := hs
    have h := mem_filterElems_in W b t ht i hi
    rw [htr wi hwi b t i ht hi he.symm] at h
    exact absurd h (trueMatch_false W w.wl b hm wi.2 (hok.2 wi hwi))

theorem scanTxs_nomatch (W : World) (b : Nat) (w : Watch) (hm : trueMatch W w.wl b = false)
    (hok : WatchOk w) (htr : Truthful W w.inputs) (ts : List Tx) (hts : ∀ t, t ∈ ts → t ∈ W.txs b) :
    scanTxs ts w = ([], w) := by
  induction ts with
  | nil => rfl
  | cons t ts ih =>
    have ht := hts t List.mem_cons_self
    have hs := spends_none W b w hm hok htr t ht
    have hp : pays t w = (false, w) := by
      apply paysOuts_none
      intro o ho ha
      exact trueMatch_false W w.wl b hm o (hok.1 o ha) (mem_filterElems_out W b t ht o ho)
    simp only [scanTxs, hs, hp, Bool.or_self, Bool.false_eq_true, ↓reduceIte]
    exact ih (fun t' ht' => hts t' (List.mem_cons_of_mem _ ht'))

theorem addWatch_ok (w : Watch) (u : Upd) (h : WatchOk w) : WatchOk (addWatch w u) :=
  ⟨fun a ha => List.mem_append_left _ (List.mem_append.mpr ((List.mem_append.mp ha).imp_left (h.1 a))),
   fun wi hwi => (List.mem_append.mp hwi).elim
     (fun hm => List.mem_append_left _ (List.mem_append_left _ (h.2 wi hm)))
     fun hm => List.mem_append_right _ (List.mem_map_of_mem hm)⟩

theorem addWatch_le (a b : Watch) (u : Upd) (h : WatchLe a b) : WatchLe (addWatch a u) (addWatch b u) :=
  ⟨fun x hx => List.mem_append.mpr ((List.mem_append.mp hx).imp_left (h.1 x)),
   fun x hx => List.mem_append.mpr ((List.mem_append.mp hx).imp_left (h.2 x))⟩

theorem addWatch_truthful (W : World) (w : Watch) (u : Upd) (h : Truthful W w.inputs)
    (hu : Truthful W u.inputs) : Truthful W (addWatch w u).inputs :=
  fun wi hwi => (List.mem_append.mp hwi).elim (h wi) (hu wi)

/-- the caller's view after a list of observations -/
def callerRun (W : World) : Caller → List Obs → Caller
  | c, [] => c
  | c, o :: os => callerRun W (c.step W o).1 os

theorem noMissFrom_append (W : World) (a b : List Obs) (c : Caller) :
    noMissFrom W c (a ++ b) = (noMissFrom W c a && noMissFrom W (callerRun W c a) b) := by
  induction a generalizing c with
  | nil => simp only [List.nil_append, noMissFrom, callerRun, Bool.true_and]
  | cons x xs ih => simp only [List.cons_append, noMissFrom, callerRun, ih, Bool.and_assoc]

theorem callerRun_append (W : World) (a b : List Obs) (c : Caller) :
    callerRun W c (a ++ b) = callerRun W (callerRun W c a) b := by
  induction a generalizing c with
  | nil => rfl
  | cons x xs ih => simp only [List.cons_append, callerRun, ih]

/-- the simulation invariant between the rescan's (watch set, scanning flag) and the caller's view -/
def Inv (W : World) (w : Watch) (sc : Bool) (c : Caller) : Prop :=
  WatchLe c.w w ∧ (c.scanning = true → sc = true) ∧ WatchOk w ∧ Truthful W w.inputs

/-- a model transition from `(w, sc)` to `(w', sc')` emitting `os` misses nothing and keeps the invariant -/
def Good (W : World) (w : Watch) (sc : Bool) (w' : Watch) (sc' : Bool) (os : List Obs) : Prop :=
  ∀ c, Inv W w sc c → noMissFrom W c os = true ∧ Inv W w' sc' (callerRun W c os)

theorem Good.append {W : World} {w1 w2 w3 : Watch} {s1 s2 s3 : Bool} {a b : List Obs}
    (h1 : Good W w1 s1 w2 s2 a) (h2 : Good W w2 s2 w3 s3 b) : Good W w1 s1 w3 s3 (a ++ b) := by
  intro c hc
  obtain ⟨ha, hi⟩ := h1 c hc
  obtain ⟨hb, hi'⟩ := h2 _ hi
  rw [noMissFrom_append, callerRun_append, ha, hb]
  exact ⟨rfl, hi'⟩

theorem Good.weaken {W : World} {w w' : Watch} {s0 s s' : Bool} {a : List Obs}
    (hs : s0 = true → s = true) (h : Good W w s w' s' a) : Good W w s0 w' s' a := by
  intro c hc
  exact h c ⟨hc.1, fun x => hs (hc.2.1 x), hc.2.2⟩

theorem callerRun_quiet (W : World) (cbs : List Cb) (c : Caller) (h : ∀ x, x ∈ cbs → quiet x = true) :
    noMissFrom W c (cbs.map Obs.cb) = true ∧ (callerRun W c (cbs.map Obs.cb)).w = c.w ∧
    (callerRun W c (cbs.map Obs.cb)).scanning = c.scanning := by
  induction cbs generalizing c with
  | nil => exact ⟨rfl, rfl, rfl⟩
  | cons x xs ih =>
    have hx := h x List.mem_cons_self
    have hxs := fun y hy => h y (List.mem_cons_of_mem _ hy)
    cases x with
    | conn a b c => cases hx
    | _ =>
      simp only [List.map_cons, noMissFrom, callerRun, Caller.step, Bool.true_and]
      exact ih _ hxs

theorem good_quiet (W : World) (w : Watch) (sc sc' : Bool) (cbs : List Cb)
    (h : ∀ x, x ∈ cbs → quiet x = true) (hs : sc = true → sc' = true) :
    Good W w sc w sc' (cbs.map Obs.cb) := by
  intro c hc
  obtain ⟨h1, h2, h3⟩ := callerRun_quiet W cbs c h
  exact ⟨h1, h2 ▸ hc.1, fun x => hs (hc.2.1 (h3 ▸ x)), hc.2.2⟩

theorem good_upd (W : World) (w : Watch) (sc : Bool) (u : Upd) (hu : Truthful W u.inputs) :
    Good W w sc (addWatch w u) sc [Obs.upd u] := by
  intro c hc
  simp only [noMissFrom, callerRun, Caller.step, Bool.and_self, true_and]
  exact ⟨addWatch_le _ _ u hc.1, hc.2.1, addWatch_ok w u hc.2.2.1, addWatch_truthful W w u hc.2.2.2 hu⟩

theorem good_conn_scan (W : World) (hW : WorldOk W) (w : Watch) (sc sc' : Bool) (h b : Nat)
    (hs : (sc || W.late b) = true → sc' = true) :
    Good W w sc (scanTxs (W.txs b) w).2 sc' [Obs.cb (.conn h b (scanTxs (W.txs b) w).1)] := by
  intro c ⟨hle, hsc, hok, htr⟩
  have hok' := scanTxs_ok (W.txs b) w hok
  have htr' := scanTxs_truthful W hW b (W.txs b) (fun _ h => h) w htr
  simp only [noMissFrom, callerRun, Caller.step, Bool.and_true]
  cases hc : c.scanning || W.late b
  · -- the caller is not scanning yet: nothing is owed, and its watch set stays behind
    exact ⟨rfl, hle.trans (scanTxs_ext _ _), nofun, hok', htr'⟩
  · refine ⟨(subList_iff _ _).mpr (scanTxs_mono _ _ _ hle), scanTxs_le _ _ _ hle, fun _ => hs ?_, hok', htr'⟩
    rcases Bool.or_eq_true _ _ ▸ hc with hc | hc
    · rw [hsc hc, Bool.true_or]
    · rw [hc, Bool.or_true]

theorem good_conn_nomatch (W : World) (hW : WorldOk W) (w : Watch) (sc sc' : Bool) (h b : Nat)
    (hs : (sc || W.late b) = true → sc' = true) (hm : trueMatch W w.wl b = false) :
    Good W w sc w sc' [Obs.cb (.conn h b [])] := by
  intro c hc
  have hg := good_conn_scan W hW w sc sc' h b hs c hc
  rwa [scanTxs_nomatch W b w hm hc.2.2.1 hc.2.2.2 (W.txs b) fun _ h => h] at hg

theorem good_conn_noscan (W : World) (w : Watch) (sc sc' : Bool) (h b : Nat) (txs : List Nat)
    (h0 : sc = false) (hl : W.late b = false) :
    Good W w sc w sc' [Obs.cb (.conn h b txs)] := by
  intro c ⟨hle, hsc, hok, htr⟩
  subst h0
  have hcs : c.scanning = false := Bool.eq_false_iff.mpr fun hx => nomatch hsc hx
  simp only [noMissFrom, callerRun, Caller.step, hcs, hl, Bool.or_self, Bool.false_eq_true, ↓reduceIte,
    Bool.and_true]
  exact ⟨rfl, hle, nofun, hok, htr⟩

/-- `Good` between two model states -/
def GoodSt (W : World) (s s' : St) (cbs : List Cb) : Prop :=
  Good W s.w s.scanning s'.w s'.scanning (cbs.map Obs.cb)

theorem GoodSt.append {W : World} {s1 s2 s3 : St} {a b : List Cb}
    (h1 : GoodSt W s1 s2 a) (h2 : GoodSt W s2 s3 b) : GoodSt W s1 s3 (a ++ b) := by
  unfold GoodSt at *
  rw [List.map_append]
  exact Good.append h1 h2

theorem GoodSt.quiet {W : World} {s s' : St} {cbs : List Cb} (hw : s'.w = s.w)
    (hs : s.scanning = true → s'.scanning = true) (hq : ∀ x, x ∈ cbs → quiet x = true) : GoodSt W s s' cbs := by
  unfold GoodSt
  rw [hw]
  exact good_quiet W _ _ _ cbs hq hs

theorem handleConnected_good (W : World) (hW : WorldOk W) (s : St) (b : Nat) :
    GoodSt W s (handleConnected W s b).1 (handleConnected W s b).2.1 := by
  obtain ⟨sc, fS, fpS, bS, hsc, ⟨hr, -, h⟩ | ⟨-, rfl, txs, w, h, hm⟩⟩ := handleConnected_cases W s b <;> rw [h]
  · exact .quiet rfl hsc nofun
  · rcases hm with ⟨rfl, rfl, hm | hm⟩ | ⟨rfl, rfl⟩
    · rw [Bool.or_eq_false_iff] at hm
      exact good_conn_noscan W _ _ _ _ _ _ hm.1 hm.2
    · exact good_conn_nomatch W hW _ _ _ _ _ id hm
    · exact good_conn_scan W hW _ _ _ _ _ id

theorem retryLoop_good (W : World) (hW : WorldOk W) (n : Nat) (s : St) :
    GoodSt W s (retryLoop W n s).1 (retryLoop W n s).2 := by
  induction n generalizing s with
  | zero => exact .quiet rfl id nofun
  | succ n ih =>
    cases hq : s.queue with
    | nil => simp only [retryLoop, hq]; exact .quiet rfl id nofun
    | cons b rest =>
      have hg := handleConnected_good W hW s b
      simp only [retryLoop, hq]
      generalize handleConnected W s b = r at hg
      obtain ⟨s', cbs, hr⟩ := r
      cases hr with
      | ok => exact GoodSt.append hg (ih { s' with queue := rest })
      | retry | err => exact hg

theorem notifyBlock_good (W : World) (hW : WorldOk W) (s : St) (hl : W.late s.cur = true → s.scanning = true) :
    GoodSt W s (notifyBlock W s).1 (notifyBlock W s).2 := by
  have hs : (s.scanning || W.late s.cur) = true → s.scanning = true := fun h =>
    (Bool.or_eq_true _ _ ▸ h).elim id hl
  obtain ⟨fS, fpS, bS, h | ⟨txs, w, h, hm⟩⟩ := notifyBlock_cases W s <;> rw [h]
  · exact .quiet rfl id fun x hx => by rw [List.mem_singleton.mp hx]; rfl
  · rcases hm with ⟨rfl, rfl, hm | hm⟩ | ⟨rfl, rfl⟩
    · exact good_conn_noscan W _ _ _ _ _ _ hm (Bool.eq_false_iff.mpr fun h => by rw [hl h] at hm; cases hm)
    · exact good_conn_nomatch W hW _ _ _ _ _ hs hm
    · exact good_conn_scan W hW _ _ _ _ _ hs

theorem catchUp_good (W : World) (hW : WorldOk W) (s : St) :
    GoodSt W s (catchUp W s).1 (catchUp W s).2 := by
  rcases catchUp_cases W s with h | h | ⟨b, -, h⟩ <;> rw [h]
  · exact .quiet rfl id fun x hx => by rw [List.mem_singleton.mp hx]; rfl
  · exact .quiet rfl id nofun
  · exact Good.weaken (fun h => by rw [h]; rfl)
      (notifyBlock_good W hW { s with cur := b, curH := s.curH + 1, scanning := s.scanning || W.late b }
        fun h => by rw [h, Bool.or_true])

theorem step_good (W : World) (hW : WorldOk W) (s : St) (e : Ev)
    (he : ∀ u, e = Ev.update u → Truthful W u.inputs) :
    Good W s.w s.scanning (step W s e).1.w (step W s e).1.scanning (obsOf s e (step W s e).2) := by
  have silent : ∀ {s' : St}, s'.w = s.w → s'.scanning = s.scanning → GoodSt W s s' [] := fun hw hs =>
    .quiet hw (fun h => by rw [hs, h]) nofun
  cases e with
  | grow | reorg | setF | setB | setFp => exact silent rfl rfl
  | connected b =>
    show GoodSt W s (step W s (.connected b)).1 (step W s (.connected b)).2
    cases h : s.dead || !s.current
    case true => rw [step_connected_idle h]; exact silent rfl rfl
    cases hq : s.queue.isEmpty
    case false => rw [step_connected_stash h hq]; exact silent rfl rfl
    rw [step_connected_handle h hq]
    have hg := handleConnected_good W hW s b
    generalize handleConnected W s b = r at hg
    obtain ⟨s', cbs, hr⟩ := r
    cases hr <;> exact hg
  | disconnected b tip =>
    show GoodSt W s (step W s (.disconnected b tip)).1 (step W s (.disconnected b tip)).2
    cases h : s.dead || !s.current
    case true => rw [step_disconnected_idle h]; exact silent rfl rfl
    by_cases hb : b = s.cur
    case neg => rw [step_disconnected_other h hb]; exact silent rfl rfl
    subst hb
    rw [step_disconnected_cur h]
    exact .quiet rfl id fun x hx => by rw [List.mem_singleton.mp hx]; rfl
  | tick =>
    show GoodSt W s (step W s .tick).1 (step W s .tick).2
    cases h : s.dead || !s.current || !s.timer
    case true => rw [step_tick_idle h]; exact silent rfl rfl
    rw [step_tick_retry h]
    exact retryLoop_good W hW s.queue.length { s with timer := false }
  | step =>
    show GoodSt W s (step W s .step).1 (step W s .step).2
    cases h : s.dead || s.current
    case true => rw [step_step_idle h]; exact silent rfl rfl
    rw [step_step_catchUp h]
    exact catchUp_good W hW s
  | update u =>
    unfold obsOf
    cases hd : s.dead
    case true => rw [step_update_dead hd]; exact silent rfl rfl
    obtain ⟨cur, curH, hs, hx⟩ := applyUpdate_frame W s u
    generalize ha : applyUpdate W s u = x at hs hx
    obtain ⟨s', cbs, rew, failed⟩ := x
    -- the update takes effect first, then the callbacks of its rewind
    have hg : Good W s.w s.scanning s'.w s'.scanning ([Obs.upd u] ++ cbs.map Obs.cb) := by
      rw [show s' = _ from hs]
      exact Good.append (good_upd W s.w s.scanning u (he u rfl)) (good_quiet W _ _ _ cbs hx id)
    cases failed
    · obtain ⟨c, h⟩ := step_update_ok hd ha
      rw [h]
      exact hg
    · rw [step_update_failed hd ha, List.map_append]
      show Good W s.w s.scanning s'.w s'.scanning (([Obs.upd u] ++ cbs.map Obs.cb) ++ [Obs.cb .exit])
      exact Good.append hg (good_quiet W _ _ _ [.exit] (fun x hm => by rw [List.mem_singleton.mp hm]; rfl) id)

theorem no_miss_run (W : World) (hW : WorldOk W) (evs : List Ev) (s : St) (c : Caller)
    (hle : WatchLe c.w s.w) (hsc : c.scanning = true → s.scanning = true)
    (hok : WatchOk s.w) (htr : Truthful W s.w.inputs) (hu : UpdTruthful W evs) :
    noMissFrom W c (runObs W s evs) = true := by
  induction evs generalizing s c with
  | nil => rfl
  | cons e es ih =>
    have hg := step_good W hW s e (fun u hue => hu u (by rw [hue]; exact List.mem_cons_self))
      c ⟨hle, hsc, hok, htr⟩
    obtain ⟨h1, h2, h3, h4, h5⟩ := hg
    simp only [runObs]
    rw [noMissFrom_append, h1, Bool.true_and]
    exact ih _ _ h2 h3 h4 h5 (fun u hue => hu u (List.mem_cons_of_mem _ hue))

end Neutrino.Rescan
