/-
Liveness-side lemmas: a subscriber that keeps reading and is not cancelled gets
everything that was pushed to it.
-/
import Neutrino.Lemmas.Subs
namespace Neutrino.Subs

theorem chanCap_pos : 0 < chanCap := by decide

/-- the schedule "forwarder moves one, consumer reads one", `k` times -/
def drainEvs (id : Nat) : Nat → List Ev
  | 0 => []
  | k + 1 => .forward id :: .consume id :: drainEvs id k

theorem step_forward_subs (s : State) (id : Nat) (x : Sub) (hx : s.subs id = some x) :
    (step s (.forward id)).1.subs id = some x.forward := by
  simp [step, upd, hx]

theorem step_consume_subs (s : State) (id : Nat) (x : Sub) (hx : s.subs id = some x) :
    (step s (.consume id)).1.subs id = some x.consume.1 := by
  simp [step, hx, setSub]

/-- The forwarder of an open subscriber only moves the boundary between channel and queue, and
leaves the channel empty only if there is nothing to move. -/
theorem Sub.forward_open (x : Sub) (hopen : x.closed = false) :
    ∃ c q, x.forward = { x with chan := c, queue := q } ∧ c ++ q = x.chan ++ x.queue ∧
      (c = [] → x.chan = [] ∧ x.queue = []) := by
  unfold Sub.forward
  rw [if_neg (by rw [hopen]; exact Bool.false_ne_true)]
  split
  next hq => exact ⟨x.chan, [], by rw [← hq], by rw [hq], fun h => ⟨h, hq⟩⟩
  next n q hq =>
    split
    · exact ⟨x.chan ++ [n], q, rfl, by rw [hq, List.append_assoc]; rfl, by simp⟩
    next hl =>
      refine ⟨x.chan, n :: q, by rw [← hq], by rw [hq], fun h => ?_⟩
      rw [h] at hl
      exact absurd chanCap_pos hl

/-- one forward-then-consume round of an open subscriber with something pending delivers one item -/
theorem Sub.round (x : Sub) (hopen : x.closed = false)
    (hpos : 0 < x.chan.length + x.queue.length) :
    x.forward.consume.1.closed = false ∧
    x.forward.consume.1.delivered ++ x.forward.consume.1.chan ++ x.forward.consume.1.queue =
      x.delivered ++ x.chan ++ x.queue ∧
    x.forward.consume.1.chan.length + x.forward.consume.1.queue.length + 1 = x.chan.length + x.queue.length := by
  obtain ⟨c, q, hf, hcq, hne⟩ := x.forward_open hopen
  have hlen := congrArg List.length hcq
  simp only [List.length_append] at hlen
  rw [hf]
  cases c with
  | nil =>
    obtain ⟨hc, hq⟩ := hne rfl
    rw [hc, hq] at hpos
    cases hpos
  | cons m c =>
    refine ⟨hopen, ?_, by show c.length + q.length + 1 = _; rw [← hlen, List.length_cons, Nat.add_right_comm]⟩
    show x.delivered ++ [m] ++ c ++ q = x.delivered ++ x.chan ++ x.queue
    rw [List.append_assoc x.delivered x.chan, ← hcq]
    simp

theorem drain_run (id : Nat) (k : Nat) (s : State) (x : Sub) (hx : s.subs id = some x)
    (hopen : x.closed = false) (hk : x.chan.length + x.queue.length = k) :
    ∃ y, (run s (drainEvs id k)).subs id = some y ∧ y.chan = [] ∧ y.queue = [] ∧
      y.delivered = x.delivered ++ x.chan ++ x.queue := by
  induction k generalizing s x with
  | zero =>
    have hc : x.chan = [] := List.eq_nil_of_length_eq_zero (Nat.eq_zero_of_add_eq_zero hk).1
    have hq : x.queue = [] := List.eq_nil_of_length_eq_zero (Nat.eq_zero_of_add_eq_zero hk).2
    exact ⟨x, hx, hc, hq, by rw [hc, hq, List.append_nil, List.append_nil]⟩
  | succ k ih =>
    obtain ⟨ho, hsame, hlen⟩ := Sub.round x hopen (hk ▸ Nat.succ_pos k)
    have h2 := step_consume_subs _ id _ (step_forward_subs s id x hx)
    obtain ⟨y, hy, hyc, hyq, hyd⟩ := ih _ _ h2 ho (Nat.add_right_cancel (hlen.trans hk))
    exact ⟨y, hy, hyc, hyq, hyd.trans hsame⟩

end Neutrino.Subs
