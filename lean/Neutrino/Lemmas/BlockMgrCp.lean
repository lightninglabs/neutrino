/-
Checkpoint lookups (`findNextCp`, `findPrevCp`) on an ascending checkpoint list, the
in-memory list as the top of the stored chain (`revNodes`), and the known-work walk.
-/
import Neutrino.Lemmas.BlockMgr
namespace Neutrino.BM

/-- well-formed checkpoint list: strictly ascending heights, none at genesis -/
structure CpsOk (cps : List Cp) : Prop where
  sorted : cps.Pairwise (fun a b => a.height < b.height)
  pos : ∀ cp ∈ cps, 0 < cp.height

theorem findNextCp_mem {cps : List Cp} {h : Nat} {cp : Cp} (hf : findNextCp cps h = some cp) :
    cp ∈ cps ∧ h < cp.height := by
  simp only [findNextCp] at hf
  exact ⟨List.mem_of_find?_eq_some hf, by simpa using List.find?_some hf⟩

theorem findNextCp_none {cps : List Cp} {h : Nat} (hf : findNextCp cps h = none) :
    ∀ cp ∈ cps, cp.height ≤ h := by
  simp only [findNextCp, List.find?_eq_none] at hf
  intro cp hm
  have := hf cp hm
  simpa using this

theorem findNextCp_least {cps : List Cp} (hs : cps.Pairwise (fun a b => a.height < b.height)) {h : Nat} {cp : Cp}
    (hf : findNextCp cps h = some cp) :
    ∀ cp' ∈ cps, h < cp'.height → cp.height ≤ cp'.height ∧ (cp'.height = cp.height → cp' = cp) := by
  induction cps with
  | nil => cases hf
  | cons c cs ih =>
    rw [findNextCp, List.find?_cons] at hf
    rw [List.pairwise_cons] at hs
    intro cp' hm hlt
    by_cases hc : h < c.height
    · rw [decide_eq_true hc] at hf; cases hf
      rcases List.mem_cons.mp hm with rfl | hm'
      · exact ⟨Nat.le_refl _, fun _ => rfl⟩
      · exact ⟨Nat.le_of_lt (hs.1 cp' hm'), fun e => absurd e (Nat.ne_of_gt (hs.1 cp' hm'))⟩
    · rw [decide_eq_false hc] at hf
      rcases List.mem_cons.mp hm with rfl | hm'
      · exact absurd hlt hc
      · exact ih hs.2 hf cp' hm' hlt

theorem findNextCp_congr {cps : List Cp} {a b : Nat}
    (h : ∀ cp ∈ cps, (a < cp.height ↔ b < cp.height)) : findNextCp cps a = findNextCp cps b := by
  induction cps with
  | nil => rfl
  | cons c cs ih =>
    simp only [findNextCp, List.find?_cons]
    have hc := h c (List.mem_cons_self ..)
    by_cases ha : a < c.height
    · have hb : b < c.height := hc.mp ha
      simp [ha, hb]
    · have hb : ¬ b < c.height := fun x => ha (hc.mpr x)
      simp only [ha, hb, decide_false]
      exact ih (fun cp hm => h cp (List.mem_cons_of_mem _ hm))

theorem ncp_stable {cps : List Cp} {a b : Nat} (hab : a ≤ b) (hno : ∀ cp ∈ cps, a < cp.height → b < cp.height) :
    findNextCp cps a = findNextCp cps b :=
  findNextCp_congr (fun cp hm => ⟨hno cp hm, fun h => Nat.lt_of_le_of_lt hab h⟩)

theorem findNextCp_at {cps : List Cp} (hs : cps.Pairwise (fun a b => a.height < b.height)) {T : Nat} {x : Cp}
    (hx : x ∈ cps) (hh : x.height = T + 1) : findNextCp cps T = some x := by
  cases hf : findNextCp cps T with
  | none => exact absurd (findNextCp_none hf x hx) (hh ▸ Nat.not_succ_le_self T)
  | some cp =>
    have h1 := findNextCp_least hs hf x hx (hh ▸ Nat.lt_succ_self T)
    rw [h1.2 (Nat.le_antisymm (hh ▸ (findNextCp_mem hf).2) h1.1)]

theorem findNextCp_succ {cps : List Cp} (hs : cps.Pairwise (fun a b => a.height < b.height)) {T : Nat}
    (hno : ∀ cp, findNextCp cps T = some cp → cp.height ≠ T + 1) : findNextCp cps T = findNextCp cps (T + 1) :=
  ncp_stable (Nat.le_succ T) fun cp hm hlt =>
    Nat.lt_of_le_of_ne hlt fun e => hno cp (findNextCp_at hs hm e.symm) e.symm

theorem foldl_prev_spec (k : Nat) (cps : List Cp) (hs : cps.Pairwise (fun a b => a.height < b.height)) (acc : Cp) :
    let r := cps.foldl (fun acc c => if c.height < k then c else acc) acc
    (r = acc ∨ (r ∈ cps ∧ r.height < k)) ∧ (∀ cp' ∈ cps, cp'.height < k → cp'.height ≤ r.height) := by
  induction cps generalizing acc with
  | nil => exact ⟨Or.inl rfl, fun _ hm => nomatch hm⟩
  | cons c cs ih =>
    rw [List.pairwise_cons] at hs
    obtain ⟨h1, h2⟩ := ih hs.2 (if c.height < k then c else acc)
    rw [List.foldl_cons]
    refine ⟨?_, fun cp' hm hlt => ?_⟩
    · rcases h1 with h1 | h1
      · rw [h1]; split
        · next hc => exact Or.inr ⟨List.mem_cons_self .., hc⟩
        · exact Or.inl rfl
      · exact Or.inr ⟨List.mem_cons_of_mem _ h1.1, h1.2⟩
    · rcases List.mem_cons.mp hm with rfl | hm'
      · rcases h1 with h1 | h1
        · rw [h1, if_pos hlt]; exact Nat.le_refl _
        · exact Nat.le_of_lt (hs.1 _ h1.1)
      · exact h2 cp' hm' hlt

theorem findPrevCp_max {cps : List Cp} (hs : cps.Pairwise (fun a b => a.height < b.height)) (k : Nat) :
    ∀ cp' ∈ cps, cp'.height < k → cp'.height ≤ (findPrevCp cps k).height :=
  (foldl_prev_spec k cps hs ⟨0, 0⟩).2

theorem findPrevCp_lt {cps : List Cp} (hs : cps.Pairwise (fun a b => a.height < b.height)) (k : Nat) (hk : 0 < k) :
    (findPrevCp cps k).height < k := by
  rcases (foldl_prev_spec k cps hs ⟨0, 0⟩).1 with h | h
  · rw [findPrevCp, h]; exact hk
  · exact h.2

/-- "equals every checkpoint at its height" -/
def CpsHold (cps : List Cp) (log : List Nat) : Prop :=
  ∀ cp ∈ cps, ∀ id, log[cp.height]? = some id → id = cp.id

theorem CpsHold.cpsHold {cps : List Cp} {log : List Nat} (h : CpsHold cps log) : cpsHold cps log = true := by
  simp only [BM.cpsHold, List.all_eq_true]
  intro cp hm
  cases hl : log[cp.height]? with
  | none => rfl
  | some id => simp [h cp hm id hl]

theorem CpsHold.take {cps : List Cp} {log : List Nat} (h : CpsHold cps log) (k : Nat) : CpsHold cps (log.take k) := by
  intro cp hm id hid
  rw [List.getElem?_take] at hid
  split at hid
  · exact h cp hm id hid
  · cases hid

theorem CpsHold.snoc {cps : List Cp} {log : List Nat} (h : CpsHold cps log) (x : Nat)
    (hx : ∀ cp ∈ cps, cp.height = log.length → x = cp.id) : CpsHold cps (log ++ [x]) := by
  intro cp hm id hid
  rcases Nat.lt_trichotomy cp.height log.length with hlt | heq | hgt
  · rw [List.getElem?_append_left hlt] at hid; exact h cp hm id hid
  · rw [heq, List.getElem?_concat_length] at hid; cases hid; exact hx cp hm heq
  · rw [List.getElem?_eq_none (by rw [List.length_append]; exact hgt)] at hid; cases hid

theorem CpsHold.push {cps : List Cp} (hs : cps.Pairwise (fun a b => a.height < b.height)) {log : List Nat}
    (h : CpsHold cps log) (x : Nat)
    (hx : ∀ cp, findNextCp cps (tipHeight log) = some cp → cp.height = tipHeight log + 1 → x = cp.id)
    (hl : tipHeight log + 1 = log.length) : CpsHold cps (log ++ [x]) :=
  h.snoc x fun cp hm he => hx cp (findNextCp_at hs hm (he.trans hl.symm)) (he.trans hl.symm)

/-- what the importer checks is what the invariant needs of the imported headers -/
theorem chainOk_append (c : Cfg) : ∀ (blocks log : List Nat), chainOk c log blocks = true → Good c.tbl log →
    Good c.tbl (log ++ blocks) ∧ (CpsHold c.cps log → CpsHold c.cps (log ++ blocks)) := by
  intro blocks
  induction blocks with
  | nil => intro log _ g; rw [List.append_nil]; exact ⟨g, id⟩
  | cons b bs ih =>
    intro log hok g
    simp only [chainOk, Bool.and_eq_true, List.all_eq_true, Bool.or_eq_true, bne_iff_ne, ne_eq, beq_iff_eq] at hok
    have := ih (log ++ [b]) hok.2 (g.snoc hok.1.1.1 hok.1.1.2)
    rw [List.append_assoc] at this
    exact ⟨this.1, fun hc => this.2 (hc.snoc b fun cp hm he => ((hok.1.2 cp hm).resolve_left (fun h1 => h1 he)).symm)⟩

/-- the stored chain as nodes, newest first -/
def revNodes (log : List Nat) : List Node := (withHeights 0 log).reverse

theorem withHeights_append (i : Nat) (l : List Nat) (x : Nat) :
    withHeights i (l ++ [x]) = withHeights i l ++ [⟨x, i + l.length⟩] := by
  induction l generalizing i with
  | nil => simp [withHeights]
  | cons y ys ih =>
    rw [List.cons_append, withHeights, withHeights, ih, Nat.add_right_comm]; rfl

theorem revNodes_snoc (l : List Nat) (x : Nat) : revNodes (l ++ [x]) = ⟨x, l.length⟩ :: revNodes l := by
  simp [revNodes, withHeights_append]

theorem revNodes_eq_cons {log : List Nat} (hne : log ≠ []) :
    revNodes log = ⟨tipId log, tipHeight log⟩ :: revNodes log.dropLast := by
  have := revNodes_snoc log.dropLast (tipId log)
  rwa [← eq_snoc_tip hne, List.length_dropLast] at this

theorem anchor_eq_take {log : List Nat} (hne : log ≠ []) : anchor log = (revNodes log).take 1 := by
  rw [revNodes_eq_cons hne]; rfl

theorem hlPush_top (win : Nat) (L : List Nat) (m x : Nat) :
    hlPush win ((revNodes L).take m) ⟨x, L.length⟩ = (revNodes (L ++ [x])).take (min (m + 1) win) := by
  rw [hlPush, revNodes_snoc, ← List.take_succ_cons, List.take_take, Nat.min_comm]

/-- `ListAnchored`, strong form: the whole in-memory list is the top of the stored chain
(as many nodes as the window has kept, at least the tip). -/
def FullAnch (log : List Nat) (hl : List Node) : Prop := ∃ m, 0 < m ∧ hl = (revNodes log).take m

theorem FullAnch.head {t : Tbl} {log : List Nat} {hl : List Node} (g : Good t log) (h : FullAnch log hl) :
    hl.head? = some ⟨tipId log, tipHeight log⟩ := by
  obtain ⟨m, hm, rfl⟩ := h
  rw [revNodes_eq_cons g.ne_nil, List.head?_take, if_neg (Nat.ne_of_gt hm)]; rfl

theorem FullAnch.anchor (log : List Nat) (hne : log ≠ []) : FullAnch log (anchor log) :=
  ⟨1, Nat.one_pos, anchor_eq_take hne⟩

theorem FullAnch.push {log : List Nat} {hl : List Node} (h : FullAnch log hl) (win : Nat) (hw : 1 ≤ win) (x : Nat) :
    FullAnch (log ++ [x]) (hlPush win hl ⟨x, log.length⟩) := by
  obtain ⟨m, hm, rfl⟩ := h
  exact ⟨min (m + 1) win, Nat.lt_min.mpr ⟨Nat.succ_pos m, hw⟩, hlPush_top win log m x⟩

theorem sumWork_append (t : Tbl) (a b : List Nat) : sumWork t (a ++ b) = sumWork t a + sumWork t b := by
  simp [sumWork]

theorem sumWork_snoc (t : Tbl) (a : List Nat) (x : Nat) : sumWork t (a ++ [x]) = sumWork t a + t.work x := by
  rw [sumWork_append]; simp [sumWork]

/-- one step of the walk from the tip `x` of `l ++ [x]`: through the list's node for `x` if the list
has one, else through the store from a header whose parent `x` is -/
theorem knownWalk_step (t : Tbl) (L l : List Nat) (x n m cur acc : Nat) (hx : x ∈ L)
    (hc : m = 0 → t.parent cur = some x) :
    knownWalk t L (n + 1) ((revNodes (l ++ [x])).take m) cur acc
      = knownWalk t L n ((revNodes l).take (m - 1)) x (acc + t.work x) := by
  cases m with
  | zero => rw [List.take_zero, knownWalk, hc rfl]; dsimp only; rw [if_pos hx]; rfl
  | succ m' => rw [revNodes_snoc, List.take_succ_cons, knownWalk]; rfl

/-- With the in-memory list the top of a good chain `P` (any number of nodes, even none) the
walk down to height `d` - list nodes while they last, then the store through `PrevBlock` - adds up
exactly the work of the headers of `P` from height `d` on. -/
theorem knownWalk_good (t : Tbl) (L : List Nat) {P : List Nat} (g : Good t P) (hsub : ∀ x ∈ P, x ∈ L) :
    ∀ (d m cur acc : Nat), d ≤ P.length → (m = 0 → d < P.length → t.parent cur = some (tipId P)) →
      knownWalk t L (P.length - d) ((revNodes P).take m) cur acc = acc + sumWork t (P.drop d) := by
  induction g with
  | gen =>
    intro d m cur acc hd hc
    match d, hd with
    | 1, _ => rfl
    | 0, _ => exact knownWalk_step t L [] 0 0 m cur acc (hsub 0 (List.mem_singleton.mpr rfl)) (fun h0 => hc h0 Nat.one_pos)
  | @snoc l x g' hp hv ih =>
    intro d m cur acc hd hc
    rw [List.length_append, List.length_singleton] at hd hc ⊢
    rcases Nat.lt_or_ge l.length d with hlt | hle
    · -- nothing to walk
      rw [Nat.le_antisymm hd hlt, Nat.sub_self, ← List.length_singleton (a := x), ← List.length_append, List.drop_length]
      rfl
    · rw [Nat.succ_sub hle, List.drop_append_of_le_length hle, sumWork_snoc, ← Nat.add_assoc, Nat.add_right_comm,
        knownWalk_step t L l x _ m cur acc (hsub x (List.mem_append_right _ (List.mem_singleton.mpr rfl)))
          (fun h0 => tipId_append l x ▸ hc h0 (Nat.lt_succ_of_le hle))]
      exact ih (fun y hy => hsub y (List.mem_append_left _ hy)) d (m - 1) x (acc + t.work x) hle (fun _ _ => hp)

end Neutrino.BM
