import Neutrino.Spec.GetBlock
namespace Neutrino.GetBlock
open Neutrino

theorem decision_accept_iff (t : Nat) (r : Resp) :
    decision t r = .accept ↔ (r.isBlock = true ∧ r.hdr = t ∧ r.sane = true ∧ r.wit = true) := by
  unfold decision
  by_cases h1 : r.isBlock = false
  · simp [h1]
  by_cases h2 : r.hdr = t
  · by_cases h3 : r.sane = false
    · simp [h1, h2, h3]
    · by_cases h4 : r.wit = false <;> simp [h1, h2, h3, h4]
  · simp [h1, h2]

theorem decision_ban_iff (t : Nat) (r : Resp) :
    decision t r = .ban ↔ (r.isBlock = true ∧ r.hdr = t ∧ (r.sane = false ∨ r.wit = false)) := by
  unfold decision
  by_cases h1 : r.isBlock = false
  · simp [h1]
  by_cases h2 : r.hdr = t
  · by_cases h3 : r.sane = false
    · simp [h1, h2, h3]
    · by_cases h4 : r.wit = false <;> simp [h1, h2, h3, h4]
  · simp [h1, h2]

theorem decision_ignore_iff (t : Nat) (r : Resp) :
    decision t r = .ignore ↔ (r.isBlock = false ∨ r.hdr ≠ t) := by
  unfold decision
  by_cases h1 : r.isBlock = false
  · simp [h1]
  by_cases h2 : r.hdr = t
  · by_cases h3 : r.sane = false
    · simp [h1, h2, h3]
    · by_cases h4 : r.wit = false <;> simp [h1, h2, h3, h4]
  · simp [h1, h2]

theorem keyOf_inj {t t' : Nat} {b b' : Bool} (h : keyOf t b = keyOf t' b') : t = t' ∧ b = b' := by
  -- parity
  have odd : ∀ a b : Nat, 2 * a ≠ 2 * b + 1 := fun a b h =>
    absurd ((Nat.mul_add_mod 2 b 1).symm.trans (h ▸ Nat.mul_mod_right 2 a)) (by decide)
  unfold keyOf at h
  cases b <;> cases b'
  · exact ⟨Nat.eq_of_mul_eq_mul_left (by decide) h, rfl⟩
  · exact absurd h (odd t t')
  · exact absurd h.symm (odd t' t)
  · exact ⟨Nat.eq_of_mul_eq_mul_left (by decide) (Nat.add_right_cancel h), rfl⟩

/-- the responses the handler is actually called with -/
def seen (cont : Bool) (t : Nat) : List Resp → List Resp
  | [] => []
  | r :: rs => if decision t r = .accept ∧ cont = false then [r] else r :: seen cont t rs

theorem seen_sub (cont : Bool) (t : Nat) (rs : List Resp) : ∀ r ∈ seen cont t rs, r ∈ rs := by
  induction rs with
  | nil => intro r h; cases h
  | cons a rs ih =>
    intro r h
    simp only [seen] at h
    split at h
    · exact List.mem_cons.mpr (Or.inl (List.mem_singleton.mp h))
    · exact (List.mem_cons.mp h).elim (fun h => List.mem_cons.mpr (Or.inl h)) (fun h => List.mem_cons_of_mem _ (ih r h))

theorem handle_progress (t : Nat) (h : HState) (r : Resp) :
    (handle t h r).2 = .finished ↔ decision t r = .accept := by
  unfold handle
  cases decision t r <;> simp

theorem handle_ignore {t : Nat} {r : Resp} (h : HState) (hd : decision t r = .ignore) : handle t h r = (h, .none) := by
  unfold handle
  rw [hd]

theorem handle_bans (t : Nat) (h : HState) (r : Resp) (p : Nat) :
    p ∈ (handle t h r).1.bans ↔ (p ∈ h.bans ∨ (decision t r = .ban ∧ r.peer = p)) := by
  unfold handle
  cases decision t r <;> simp [or_comm, eq_comm]

theorem handle_found (t : Nat) (h : HState) (r : Resp) :
    (handle t h r).1.found = (if decision t r = .accept then some r else h.found) := by
  unfold handle
  cases decision t r <;> rfl

/- In the proofs about `feed`, `handle_progress` turns the dispatcher's test "the handler said `Finished`"
into the test of `seen`. -/

theorem feed_bans (cont : Bool) (t : Nat) (rs : List Resp) : ∀ (h : HState) (p : Nat),
    p ∈ (feed cont t h rs).1.bans ↔
      (p ∈ h.bans ∨ ∃ r ∈ seen cont t rs, decision t r = .ban ∧ r.peer = p) := by
  induction rs with
  | nil => intro h p; simp [feed, seen]
  | cons a rs ih =>
    intro h p
    simp only [feed, seen, handle_progress]
    split
    · simp [handle_bans]
    · simp only [ih, handle_bans, List.mem_cons, exists_eq_or_imp, or_assoc]

theorem feed_found (cont : Bool) (t : Nat) (rs : List Resp) : ∀ (h : HState) (r : Resp),
    (feed cont t h rs).1.found = some r →
      (h.found = some r ∨ (r ∈ seen cont t rs ∧ decision t r = .accept)) := by
  induction rs with
  | nil => intro h r hf; exact Or.inl hf
  | cons a rs ih =>
    intro h r hf
    have here : (handle t h a).1.found = some r → h.found = some r ∨ (r = a ∧ decision t r = .accept) := by
      rw [handle_found]
      split
      · next hd => intro e; cases e; exact Or.inr ⟨rfl, hd⟩
      · exact Or.inl
    simp only [feed, seen, handle_progress] at hf ⊢
    split at hf
    · next hc =>
      rw [if_pos hc]
      exact (here hf).imp_right fun ⟨e, hd⟩ => ⟨List.mem_singleton.mpr e, hd⟩
    · next hc =>
      rw [if_neg hc]
      rcases ih _ r hf with h1 | ⟨h1, h2⟩
      · exact (here h1).imp_right fun ⟨e, hd⟩ => ⟨List.mem_cons.mpr (Or.inl e), hd⟩
      · exact Or.inr ⟨List.mem_cons_of_mem _ h1, h2⟩

theorem feed_found_none (cont : Bool) (t : Nat) (rs : List Resp)
    (hno : ∀ r ∈ rs, decision t r ≠ .accept) : ∀ (h : HState),
    (feed cont t h rs).1.found = h.found := by
  induction rs with
  | nil => intro h; rfl
  | cons a rs ih =>
    intro h
    have ha : decision t a ≠ .accept := hno a List.mem_cons_self
    simp only [feed, handle_progress, ha, false_and, ↓reduceIte]
    rw [ih (fun r hr => hno r (List.mem_cons_of_mem _ hr)), handle_found, if_neg ha]

theorem feed_prog_length (cont : Bool) (t : Nat) (rs : List Resp) : ∀ (h : HState),
    (feed cont t h rs).2.length = (seen cont t rs).length := by
  induction rs with
  | nil => intro h; rfl
  | cons a rs ih =>
    intro h
    simp only [feed, seen, handle_progress]
    split
    · rfl
    · simp only [List.length_cons, ih]

theorem feed_ignores (cont : Bool) (t : Nat) (rs : List Resp) : ∀ (h : HState),
    (feed cont t h rs).1 = (feed cont t h (rs.filter (fun r => decide (decision t r ≠ .ignore)))).1 := by
  induction rs with
  | nil => intro h; rfl
  | cons a rs ih =>
    intro h
    by_cases hd : decision t a = .ignore
    · rw [List.filter_cons_of_neg (by simpa using hd), ← ih]
      simp only [feed, handle_ignore h hd, reduceCtorEq, false_and, ↓reduceIte]
    · rw [List.filter_cons_of_pos (by simpa using hd)]
      simp only [feed]
      split
      · rfl
      · exact ih _

/-- a dispatcher that stops at the first `Finished` ends with the first acceptable
response of the stream as `foundBlock`, whatever precedes it -/
theorem feed_first_accept (t : Nat) (rs : List Resp) (r : Resp) : ∀ (h : HState),
    rs.find? (fun x => decide (decision t x = .accept)) = some r →
    (feed false t h rs).1.found = some r := by
  induction rs with
  | nil => intro h hf; cases hf
  | cons a rs ih =>
    intro h hf
    simp only [feed, handle_progress, and_true]
    by_cases hd : decision t a = .accept
    · rw [List.find?_cons_of_pos (by simpa using hd)] at hf
      cases hf
      rw [if_pos hd, handle_found, if_pos hd]
    · rw [List.find?_cons_of_neg (by simpa using hd)] at hf
      rw [if_neg hd]
      exact ih _ hf

theorem evict_sub (cap : Nat) (bad : List Nat) (needed : Nat) (ll : List Lru.Entry) (ev : Bool) :
    ∀ e ∈ (Lru.Spec.evict cap bad needed ll ev).1, e ∈ ll := by
  induction ll generalizing ev with
  | nil => intro e h; cases h
  | cons b rest ih =>
    intro e h
    simp only [Lru.Spec.evict] at h
    split at h
    · split at h
      · exact h
      · exact List.mem_cons_of_mem _ (ih true e h)
    · exact h

theorem spec_get (sp : Lru.Spec) (k : Nat) :
    (∃ e ∈ sp.items, e.key = k ∧ sp.step (.get k) = ({ sp with items := sp.items.erase e ++ [e] }, .val e.vid)) ∨
    ((∀ e ∈ sp.items, e.key ≠ k) ∧ sp.step (.get k) = (sp, .notFound)) := by
  simp only [Lru.Spec.step]
  cases hf : sp.find k with
  | none => exact Or.inr ⟨fun e he hk => by simpa [hk] using List.find?_eq_none.mp hf e he, rfl⟩
  | some el => exact Or.inl ⟨el, List.mem_of_find?_eq_some hf, by simpa using List.find?_some hf, rfl⟩

theorem mem_erase_append {l : List Lru.Entry} {el e : Lru.Entry} (hel : el ∈ l) (h : e ∈ l.erase el ++ [el]) : e ∈ l :=
  (List.mem_append.mp h).elim List.mem_of_mem_erase fun h => List.mem_singleton.mp h ▸ hel

theorem spec_put_items {sp : Lru.Spec} {k v z : Nat} :
    ∀ e, e ∈ (sp.step (.put k v z)).1.items → (e ∈ sp.items ∨ e = ⟨k, v, z⟩) := by
  -- what `evict` leaves of a sublist `l` of the items, with or without the new entry behind it
  have tail : ∀ l, (∀ e ∈ l, e ∈ sp.items) → ∀ e,
      e ∈ (match Lru.Spec.evict sp.cap sp.bad z l false with
        | (items, ev, ok) =>
          if ok = true then (({ sp with items := items ++ [(⟨k, v, z⟩ : Lru.Entry)] } : Lru.Spec), Lru.Out.okPut ev)
          else ({ sp with items := items }, .err)).1.items →
      e ∈ sp.items ∨ e = ⟨k, v, z⟩ := by
    intro l hl e he
    have hs := evict_sub sp.cap sp.bad z l false
    generalize Lru.Spec.evict sp.cap sp.bad z l false = r at hs he
    obtain ⟨a, b, c⟩ := r
    cases c
    · exact Or.inl (hl e (hs e he))
    · rcases List.mem_append.mp he with h | h
      · exact Or.inl (hl e (hs e h))
      · exact Or.inr (List.mem_singleton.mp h)
  intro e he
  simp only [Lru.Spec.step] at he
  by_cases h1 : v ∈ sp.bad
  · rw [if_pos h1] at he; exact Or.inl he
  rw [if_neg h1] at he
  by_cases h2 : z > sp.cap
  · rw [if_pos h2] at he; exact Or.inl he
  rw [if_neg h2] at he
  cases hf : sp.find k with
  | none => rw [hf] at he; exact tail _ (fun _ h => h) e he
  | some el =>
    rw [hf] at he
    by_cases h3 : el.vid ∈ sp.bad
    · simp only [if_pos h3] at he; exact Or.inl he
    · simp only [if_neg h3] at he; exact tail _ (fun _ => List.mem_of_mem_erase) e he

/-- the network branch (cache miss), with the cache untouched by the miss -/
def afterQuery (s : State) (c : Call) : Outcome :=
  let hp := feed c.cont c.target { found := none, bans := s.bans } c.resps
  let s1 : State := { cache := s.cache, bans := hp.1.bans }
  match c.verdict with
  | .quit => ⟨s1, .errQuit, hp.2, 1⟩
  | .err => ⟨s1, .errQuery, hp.2, 1⟩
  | .nil =>
    match hp.1.found with
    | none => ⟨s1, .errNotFound, hp.2, 1⟩
    | some r =>
      ⟨{ s1 with cache := (s1.cache.step (.put (keyOf c.target c.base) r.rid r.size)).1 }, .ret r.rid, hp.2, 1⟩

theorem getBlock_unknown (s : State) (c : Call) (h : c.known = false) :
    getBlock s c = ⟨s, .errNoHeader, [], 0⟩ := by
  simp only [getBlock, h, ↓reduceIte]

theorem getBlock_miss (s : State) (c : Call) (hk : c.known = true)
    (h : ∀ e ∈ s.cache.items, e.key ≠ keyOf c.target c.base) : getBlock s c = afterQuery s c := by
  rcases spec_get s.cache (keyOf c.target c.base) with ⟨e, he, hke, _⟩ | ⟨_, heq⟩
  · exact absurd hke (h e he)
  · simp only [getBlock, afterQuery, hk, Bool.true_eq_false, ↓reduceIte, heq]
    rfl

theorem getBlock_cases (s : State) (c : Call) :
    (c.known = false ∧ getBlock s c = ⟨s, .errNoHeader, [], 0⟩) ∨
    (∃ e ∈ s.cache.items, e.key = keyOf c.target c.base ∧
      getBlock s c = ⟨{ s with cache := { s.cache with items := s.cache.items.erase e ++ [e] } }, .ret e.vid, [], 0⟩) ∨
    ((∀ e ∈ s.cache.items, e.key ≠ keyOf c.target c.base) ∧ getBlock s c = afterQuery s c) := by
  cases hk : c.known with
  | false => exact Or.inl ⟨rfl, getBlock_unknown s c hk⟩
  | true =>
    rcases spec_get s.cache (keyOf c.target c.base) with ⟨e, he, hke, heq⟩ | ⟨hno, _⟩
    · exact Or.inr (Or.inl ⟨e, he, hke, by simp only [getBlock, hk, Bool.true_eq_false, ↓reduceIte, heq]⟩)
    · exact Or.inr (Or.inr ⟨hno, getBlock_miss s c hk hno⟩)

/-- `(key, vid)` is the cache key of a call and the id of a response of that
call which the handler's decision function accepts. -/
def Prov (calls : List Call) (key vid : Nat) : Prop :=
  ∃ c ∈ calls, ∃ r ∈ c.resps, keyOf c.target c.base = key ∧ r.rid = vid ∧ decision c.target r = .accept

def CacheOk (calls : List Call) (s : State) : Prop :=
  ∀ e ∈ s.cache.items, Prov calls e.key e.vid

theorem Prov.mono {calls : List Call} {k v : Nat} (c : Call) (h : Prov calls k v) : Prov (calls ++ [c]) k v := by
  obtain ⟨c', hc', h⟩ := h
  exact ⟨c', List.mem_append_left _ hc', h⟩

theorem afterQuery_shape (s : State) (c : Call) :
    ∃ res cache, afterQuery s c =
        ⟨⟨cache, (feed c.cont c.target { found := none, bans := s.bans } c.resps).1.bans⟩, res,
          (feed c.cont c.target { found := none, bans := s.bans } c.resps).2, 1⟩ ∧
      (res.isRet = false ∧ cache = s.cache ∨
       c.verdict = .nil ∧ ∃ r, (feed c.cont c.target { found := none, bans := s.bans } c.resps).1.found = some r ∧
         res = .ret r.rid ∧ cache = (s.cache.step (.put (keyOf c.target c.base) r.rid r.size)).1) := by
  unfold afterQuery
  cases hv : c.verdict with
  | quit => exact ⟨_, _, rfl, Or.inl ⟨rfl, rfl⟩⟩
  | err => exact ⟨_, _, rfl, Or.inl ⟨rfl, rfl⟩⟩
  | nil =>
    cases hf : (feed c.cont c.target { found := none, bans := s.bans } c.resps).1.found with
    | none => exact ⟨.errNotFound, s.cache, by simp only [hf], Or.inl ⟨rfl, rfl⟩⟩
    | some r => exact ⟨.ret r.rid, _, by simp only [hf], Or.inr ⟨rfl, r, rfl, rfl, rfl⟩⟩

theorem afterQuery_found (s : State) (c : Call) (rid : Nat) (h : (afterQuery s c).result = .ret rid) :
    c.verdict = .nil ∧ ∃ r ∈ seen c.cont c.target c.resps, decision c.target r = .accept ∧ r.rid = rid ∧
      (afterQuery s c).st.cache = (s.cache.step (.put (keyOf c.target c.base) r.rid r.size)).1 := by
  obtain ⟨res, cache, he, ⟨hr, _⟩ | ⟨hv, r, hf, hres, hc⟩⟩ := afterQuery_shape s c <;> rw [he] at h ⊢ <;> cases h
  · cases hr
  · cases hres
    rcases feed_found _ _ _ _ r hf with h1 | h1
    · cases h1
    · exact ⟨hv, r, h1.1, h1.2, rfl, hc⟩

theorem afterQuery_err_cache (s : State) (c : Call) (h : (afterQuery s c).result.isRet = false) :
    (afterQuery s c).st.cache = s.cache := by
  obtain ⟨res, cache, he, ⟨_, hc⟩ | ⟨_, r, _, hres, _⟩⟩ := afterQuery_shape s c <;> rw [he] at h ⊢
  · exact hc
  · rw [hres] at h; cases h

theorem afterQuery_bans (s : State) (c : Call) :
    (afterQuery s c).st.bans = (feed c.cont c.target { found := none, bans := s.bans } c.resps).1.bans := by
  obtain ⟨_, _, he, _⟩ := afterQuery_shape s c
  rw [he]

theorem afterQuery_prog (s : State) (c : Call) :
    (afterQuery s c).prog = (feed c.cont c.target { found := none, bans := s.bans } c.resps).2 := by
  obtain ⟨_, _, he, _⟩ := afterQuery_shape s c
  rw [he]

theorem afterQuery_queries (s : State) (c : Call) : (afterQuery s c).queries = 1 := by
  obtain ⟨_, _, he, _⟩ := afterQuery_shape s c
  rw [he]

theorem getBlock_ret_prov (calls : List Call) (s : State) (c : Call) (hok : CacheOk calls s) (rid : Nat)
    (h : (getBlock s c).result = .ret rid) : Prov (calls ++ [c]) (keyOf c.target c.base) rid := by
  rcases getBlock_cases s c with ⟨_, he⟩ | ⟨e, hmem, hk, he⟩ | ⟨_, he⟩
  · rw [he] at h; cases h
  · rw [he] at h
    cases h
    exact hk ▸ (hok e hmem).mono c
  · rw [he] at h
    obtain ⟨_, r, hr, hd, hrid, _⟩ := afterQuery_found s c rid h
    exact ⟨c, by simp, r, seen_sub _ _ _ r hr, rfl, hrid, hd⟩

theorem getBlock_cacheOk (calls : List Call) (s : State) (c : Call) (hok : CacheOk calls s) :
    CacheOk (calls ++ [c]) (getBlock s c).st := by
  rcases getBlock_cases s c with ⟨_, he⟩ | ⟨e, hmem, _, he⟩ | ⟨_, he⟩
  · rw [he]; exact fun e hmem => (hok e hmem).mono c
  · rw [he]; exact fun e' h => (hok e' (mem_erase_append hmem h)).mono c
  · rw [he]
    cases hr : (afterQuery s c).result with
    | ret rid =>
      obtain ⟨_, r, hrs, hd, hrid, hcache⟩ := afterQuery_found s c rid hr
      intro e hmem
      rw [hcache] at hmem
      rcases spec_put_items e hmem with h1 | h1
      · exact (hok e h1).mono c
      · subst h1
        exact ⟨c, by simp, r, seen_sub _ _ _ r hrs, rfl, rfl, hd⟩
    | _ =>
      rw [CacheOk, afterQuery_err_cache s c (by rw [hr]; rfl)]
      exact fun e hmem => (hok e hmem).mono c

theorem run_append (s : State) (cs : List Call) (c : Call) : run s (cs ++ [c]) = (getBlock (run s cs) c).st := by
  induction cs generalizing s with
  | nil => rfl
  | cons a cs ih => exact ih _

theorem run_cacheOk_from (pre cs : List Call) (s : State) (h : CacheOk pre s) : CacheOk (pre ++ cs) (run s cs) := by
  induction cs generalizing s pre with
  | nil => rwa [List.append_nil]
  | cons c cs ih =>
    have := ih (pre ++ [c]) _ (getBlock_cacheOk pre s c h)
    rwa [List.append_assoc] at this

theorem run_cacheOk (cap : Nat) (calls : List Call) : CacheOk calls (run (init cap) calls) :=
  run_cacheOk_from [] calls (init cap) (fun _ h => nomatch h)

end Neutrino.GetBlock
