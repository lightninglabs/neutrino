/-
What `handleHeadersMsg` does, exactly, from a state satisfying the invariant: the invariant holds
again and the store is one of a few shapes - the outcomes of the connect phase (`connect_run`) and
of the whole handler (`handle_shape`).  That every event preserves the invariant (`inv_step`) and
C02's history-level theorems are read off these.
-/
import Neutrino.Lemmas.BlockMgrInv
namespace Neutrino.BM

/-- outcomes of the connect phase on the store.  `base` = stored chain plus what is already
pending, `stored` = the stored chain, `rest` = the headers still to come, `ncp` = next checkpoint. -/
def ConnOut (c : Cfg) (ncp : Option Cp) (stored base rest out : List Nat) : Prop :=
  (rest.all c.tbl.valid = false ∧ out = stored) ∨
  out = base ++ rest ∨
  ∃ d cp, d ≤ rest.length ∧ ncp = some cp ∧ base.length + d = cp.height + 1 ∧
    (out = base ++ rest.take d ∧ tipId out = cp.id ∨ out = stored.take ((findPrevCp c.cps cp.height).height + 1))

theorem ConnOut.cons {c : Cfg} {ncp : Option Cp} {stored base rest out : List Nat} {h : Nat}
    (ho : ConnOut c ncp stored (base ++ [h]) rest out) : ConnOut c ncp stored base (h :: rest) out := by
  have e : ∀ l : List Nat, base ++ [h] ++ l = base ++ h :: l := fun l => List.append_cons .. |>.symm
  have hlen : ∀ d cp, (base ++ [h]).length + d = cp + 1 → base.length + (d + 1) = cp + 1 := fun d cp hl => by
    rwa [List.length_append, List.length_singleton, Nat.add_assoc, Nat.add_comm 1] at hl
  rcases ho with ⟨hinv, hout⟩ | hout | ⟨d, cp, hd, hn, hl, hout⟩
  · exact Or.inl ⟨by rw [List.all_cons, hinv, Bool.and_false], hout⟩
  · exact Or.inr (Or.inl (hout.trans (e rest)))
  · exact Or.inr (Or.inr ⟨d + 1, cp, Nat.succ_le_succ hd, hn, hlen d _ hl, hout.imp_left (.imp_left (·.trans (e _)))⟩)

/-- fully valid headers that do not reach the next checkpoint's height are all stored -/
theorem ConnOut.full {c : Cfg} {ncp : Option Cp} {stored base rest out : List Nat} (ho : ConnOut c ncp stored base rest out)
    (hval : rest.all c.tbl.valid = true) (hnocp : ∀ cp, ncp = some cp → base.length + rest.length ≤ cp.height) :
    out = base ++ rest := by
  rcases ho with ⟨hinv, _⟩ | h2 | ⟨d, cp, hd, hn, hl, _⟩
  · rw [hval] at hinv; cases hinv
  · exact h2
  · exact absurd (hl ▸ Nat.le_trans (Nat.add_le_add_left hd _) (hnocp cp hn)) (Nat.not_succ_le_self _)

/-- **The connect phase**: once a header of the message connects, every later one does; the
invariant holds at the end, and the store ends up either untouched (an invalid header was met),
extended by all of them, extended up to the header that IS the next checkpoint, or cut back to the
previous checkpoint because the header at the next checkpoint's height is not the checkpoint. -/
theorem connect_run (c : Cfg) (ok : CpsOk c.cps) (hw : 1 ≤ c.win) (p : Nat) (rest : List Nat) :
    ∀ (s : State) (l : Loc) (ntf : List Ntfn), linked c.tbl rest = true → LIf c s l rest →
      (∀ h, rest.head? = some h → c.tbl.parent h = some (tipId (s.log ++ l.batch))) →
      Inv c (loop c p rest s l ntf).1 ∧
      ConnOut c s.ncp s.log (s.log ++ l.batch) rest (loop c p rest s l ntf).1.log := by
  induction rest with
  | nil =>
    intro s l ntf _ li _
    refine ⟨finish_core c s l ntf li.good li.clean li.anch li.first li.cpsL ?_, Or.inr (Or.inl ?_)⟩
    · rw [li.noCp]; exact li.ncpL
    · rw [List.append_nil, loop, finish_eq c s l ntf li.first]
  | cons h rest ih =>
    intro s l ntf hlk li hconn
    have hpar := hconn h rfl
    have hhd := li.anch.head li.good
    cases hv : c.tbl.valid h with
    | false =>
      rw [loop_invalid hhd hpar hv]
      exact ⟨⟨li.goodLog, li.clean, FullAnch.anchor _ li.goodLog.ne_nil, li.cpsS, li.ncpS⟩,
        Or.inl ⟨by rw [List.all_cons, hv, Bool.false_and], rfl⟩⟩
    | true =>
      rw [loop_connect hhd hpar hv]; dsimp only
      rw [li.good.tipHeight_succ]
      have hstep := connect_step ok hw li hlk hpar hv p ntf (updLast s.peers p (s.log ++ l.batch).length)
      cases hcp : cpTest c p h _ _ ntf _ with
      | some r =>
        rw [hcp] at hstep
        obtain ⟨hinv, cp, hn, hh, hcase⟩ := hstep
        refine ⟨hinv, Or.inr (Or.inr ⟨1, cp, Nat.succ_pos _, hn, congrArg (· + 1) hh, hcase.imp ?_ (·.2)⟩)⟩
        exact fun ⟨hid, hlog⟩ => ⟨hlog, by rw [hlog, tipId_append]; exact hid⟩
      | none =>
        rw [hcp] at hstep
        have hb : s.log ++ (pushBatch { l with finalId := h } h (s.log ++ l.batch).length).batch = s.log ++ l.batch ++ [h] := by
          rw [pushBatch_batch, List.append_assoc]
        have := ih _ _ ntf (linked_tail hlk) hstep (fun h' hh' => by rw [hb, tipId_append]; exact linked_next hlk hh')
        rw [hb] at this
        exact ⟨this.1, this.2.cons⟩

theorem reorg_run (c : Cfg) (ok : CpsOk c.cps) (hw : 1 ≤ c.win) (p h : Nat) (suf : List Nat) (s : State) (l : Loc)
    (ntf : List Ntfn) (inv : Inv c s) (hb : l.batch = []) (hr : l.recvCp = false)
    (hlk : linked c.tbl (h :: suf) = true) (hpar : c.tbl.parent h ≠ some (tipId s.log)) (bh : Nat)
    (hd : reorgDecision c s p ⟨tipId s.log, tipHeight s.log⟩ h suf = .adopt bh) :
    bh < tipHeight s.log ∧ Inv c (loop c p (h :: suf) s l ntf).1 ∧
    ConnOut c s.ncp (s.log.take (bh + 1) ++ [h]) (s.log.take (bh + 1) ++ [h]) suf (loop c p (h :: suf) s l ntf).1.log := by
  rw [loop_fork (inv.anch.head inv.good) hpar, hd]; dsimp only
  obtain ⟨hbh, hlog, hncp, li', hcp⟩ := reorg_step ok hw inv (l := { l with finalId := h }) hb hr p
    (ntf ++ (doReorg c s p h bh).2) hpar hd
  rw [hcp]; dsimp only
  have e : (doReorg c s p h bh).1.log ++ l.batch = s.log.take (bh + 1) ++ [h] := by rw [hb, List.append_nil, hlog]
  have := connect_run c ok hw p suf _ _ (ntf ++ (doReorg c s p h bh).2) (linked_tail hlk) li'
    (fun h' hh' => by dsimp only; rw [e, tipId_append]; exact linked_next hlk hh')
  dsimp only at this
  rw [e, hlog, hncp] at this
  exact ⟨hbh, this⟩

/-- outcomes of the whole handler on the store, from a state satisfying the invariant -/
def HandleOut (c : Cfg) (p : Nat) (s : State) (hs out : List Nat) : Prop :=
  out = s.log ∨
  ∃ pre rest, hs = pre ++ rest ∧ (∀ x ∈ pre, x ∈ s.log) ∧
    (ConnOut c s.ncp s.log s.log rest out ∨
     ∃ h suf bh, rest = h :: suf ∧ h ∉ s.log ∧ bh < tipHeight s.log ∧
      reorgDecision c s p ⟨tipId s.log, tipHeight s.log⟩ h suf = .adopt bh ∧
      ConnOut c s.ncp (s.log.take (bh + 1) ++ [h]) (s.log.take (bh + 1) ++ [h]) suf out)

theorem HandleOut.cons {c : Cfg} {p : Nat} {s : State} {hs out : List Nat} {h : Nat} (hm : h ∈ s.log)
    (ho : HandleOut c p s hs out) : HandleOut c p s (h :: hs) out := by
  rcases ho with h1 | ⟨pre, rest, he, hpre, hc⟩
  · exact Or.inl h1
  · exact Or.inr ⟨h :: pre, rest, congrArg _ he,
      fun x hx => (List.mem_cons.mp hx).elim (fun e => e ▸ hm) (hpre x), hc⟩

/-- the loop from an idle state: headers stored already are skipped, the first other one either
connects, is reorganised onto, or ends the handler with the store as it was -/
theorem phase1 (c : Cfg) (ok : CpsOk c.cps) (hw : 1 ≤ c.win) (p : Nat) (s : State) (inv : Inv c s) (rest : List Nat) :
    ∀ (l : Loc) (ntf : List Ntfn), linked c.tbl rest = true → l.batch = [] → l.recvCp = false →
      Inv c (loop c p rest s l ntf).1 ∧ HandleOut c p s rest (loop c p rest s l ntf).1.log := by
  induction rest with
  | nil =>
    intro l ntf _ hb hr
    have := connect_run c ok hw p [] s l ntf rfl (LIf_of_inv [] inv hb hr) (fun _ e => nomatch e)
    exact ⟨this.1, Or.inl (by rw [loop, finish_eq c s l ntf (fun x => absurd hb x), hb, List.append_nil])⟩
  | cons h rest ih =>
    intro l ntf hlk hb hr
    have hhd := inv.anch.head inv.good
    by_cases hpar : c.tbl.parent h = some (tipId s.log)
    · have := connect_run c ok hw p (h :: rest) s l ntf hlk (LIf_of_inv _ inv hb hr)
        (fun h' hh' => by cases hh'; rw [hb, List.append_nil]; exact hpar)
      rw [hb, List.append_nil] at this
      exact ⟨this.1, Or.inr ⟨[], h :: rest, rfl, (fun _ e => nomatch e), Or.inl this.2⟩⟩
    · have spec := reorgDecision_spec c s p ⟨tipId s.log, tipHeight s.log⟩ h rest
      cases hd : reorgDecision c s p ⟨tipId s.log, tipHeight s.log⟩ h rest with
      | ignore => rw [loop_fork hhd hpar, hd]; exact ⟨inv, Or.inl rfl⟩
      | disconnect => rw [loop_fork hhd hpar, hd]; exact ⟨inv.quiet rfl rfl rfl (Or.inl rfl), Or.inl rfl⟩
      | skip =>
        rw [loop_fork hhd hpar, hd]; dsimp only
        rw [hd] at spec
        have hm : h ∈ s.log := spec.elim (fun e => e ▸ tipId_mem inv.good.ne_nil) id
        have := ih { l with finalId := h } ntf (linked_tail hlk) hb hr
        exact ⟨this.1, this.2.cons hm⟩
      | adopt bh =>
        rw [hd] at spec
        obtain ⟨hbh, hinv, hc⟩ := reorg_run c ok hw p h rest s l ntf inv hb hr hlk hpar bh hd
        exact ⟨hinv, Or.inr ⟨[], h :: rest, rfl, (fun _ e => nomatch e), Or.inr ⟨h, rest, bh, rfl, spec.2.2.1, hbh, hd, hc⟩⟩⟩

theorem handle_shape (c : Cfg) (ok : CpsOk c.cps) (hw : 1 ≤ c.win) (p : Nat) (s : State) (inv : Inv c s) (hs : List Nat) :
    Inv c (handleHeaders c s p hs).1 ∧ HandleOut c p s hs (handleHeaders c s p hs).1.log := by
  rcases handleHeaders_cases c s p hs with ⟨-, hl, e⟩ | ⟨-, ps, e⟩ <;> rw [e]
  · exact phase1 c ok hw p s inv hs {} [] hl rfl rfl
  · exact ⟨inv.quiet rfl rfl rfl (Or.inl rfl), Or.inl rfl⟩

theorem inv_step (c : Cfg) (ok : CpsOk c.cps) (hw : 1 ≤ c.win) (s : State) (e : Ev) (h : Inv c s) :
    Inv c (step c s e).1 := by
  refine step_cases (fun p hs => (handle_shape c ok hw p s h hs).1) (fun blocks nf => ?_) (fun _ => h.quiet) e
  rw [importReset]; split
  · next hok =>
    have g := chainOk_append c _ _ hok h.good
    exact ⟨g.1, h.clean, FullAnch.anchor _ g.1.ne_nil, g.2 h.cps, rfl⟩
  · exact ⟨h.good, h.clean, FullAnch.anchor _ h.good.ne_nil, h.cps, rfl⟩

theorem inv_init (c : Cfg) (ok : CpsOk c.cps) (peers : List Peer) : Inv c (init c peers) := by
  refine ⟨Good.gen, rfl, FullAnch.anchor [0] (List.cons_ne_nil _ _), fun cp hm id hid => ?_, rfl⟩
  rw [show (init c peers).log = [0] from rfl, List.getElem?_eq_none (Nat.succ_le_of_lt (ok.pos cp hm))] at hid
  cases hid

theorem inv_run (c : Cfg) (ok : CpsOk c.cps) (hw : 1 ≤ c.win) (s : State) (es : List Ev) (h : Inv c s) :
    Inv c (run c s es) :=
  run_inv (inv_step c ok hw) es s h

end Neutrino.BM
