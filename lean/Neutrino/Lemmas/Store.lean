import Neutrino.Spec.Store
/-! The index (`Db`): what a lookup returns after each of its updates; the flat files: appends and cuts. -/
namespace Neutrino.Store

theorem find?_filter_ne (idx : List (Nat × Nat)) {id x : Nat} (h : x ≠ id) :
    (idx.filter fun p => !(p.1 == id)).find? (·.1 == x) = idx.find? (·.1 == x) := by
  induction idx with
  | nil => rfl
  | cons p ps ih =>
    by_cases hq : p.1 = id
    · have hp : (id == x) = false := by simpa using Ne.symm h
      simp [hq, ih, hp]
    · simp [hq, ih, List.find?_cons]

theorem height?_put (db : Db) (id h x : Nat) :
    (db.put id h).height? x = if x = id then some h else db.height? x := by
  unfold Db.put Db.height?
  by_cases hx : x = id
  · simp [hx]
  · have : (id == x) = false := by simpa using Ne.symm hx
    simp only [List.find?_cons, this, hx, if_false, find?_filter_ne _ hx]

theorem height?_del (db : Db) (id x : Nat) :
    (db.del id).height? x = if x = id then none else db.height? x := by
  unfold Db.del Db.height?
  by_cases hx : x = id
  · simp [hx, List.find?_filter]
  · simp only [hx, if_false, find?_filter_ne _ hx]

@[simp] theorem put_btip (db : Db) (id h : Nat) : (db.put id h).btip = db.btip := rfl
@[simp] theorem put_ftip (db : Db) (id h : Nat) : (db.put id h).ftip = db.ftip := rfl
@[simp] theorem del_btip (db : Db) (id : Nat) : (db.del id).btip = db.btip := rfl
@[simp] theorem del_ftip (db : Db) (id : Nat) : (db.del id).ftip = db.ftip := rfl

theorem delAll_ftip (db : Db) (ids : List Nat) : (db.delAll ids).ftip = db.ftip := by
  induction ids generalizing db with
  | nil => rfl
  | cons i is ih => exact ih (db.del i)

theorem height?_delAll (db : Db) (ids : List Nat) (x : Nat) :
    (db.delAll ids).height? x = if x ∈ ids then none else db.height? x := by
  induction ids generalizing db with
  | nil => simp [Db.delAll]
  | cons i is ih =>
    rw [Db.delAll, ih, height?_del]
    by_cases h1 : x ∈ is <;> by_cases h2 : x = i <;> simp [h1, h2]

theorem addHeaders_ftip (db : Db) (ids : List Nat) (s : Nat) : (db.addHeaders ids s).ftip = db.ftip := by
  show (Db.addHeaders.go db ids s).ftip = db.ftip
  induction ids generalizing db s with
  | nil => rfl
  | cons i is ih => exact ih (db.put i s) (s + 1)

theorem addHeaders_btip (db : Db) (ids : List Nat) (s : Nat) :
    (db.addHeaders ids s).btip = ids.getLast?.orElse (fun _ => db.btip) := rfl

theorem height?_addHeaders_of_not_mem (db : Db) {ids : List Nat} (s : Nat) {x : Nat} (hx : x ∉ ids) :
    (db.addHeaders ids s).height? x = db.height? x := by
  show (Db.addHeaders.go db ids s).height? x = db.height? x
  induction ids generalizing db s with
  | nil => rfl
  | cons i is ih =>
    rw [List.mem_cons, not_or] at hx
    rw [Db.addHeaders.go, ih _ _ hx.2, height?_put, if_neg hx.1]

/-- `addHeaders` stamps consecutive heights on a batch of distinct ids -/
theorem height?_addHeaders_getElem? (db : Db) {ids : List Nat} (s : Nat) {j x : Nat} (hnd : ids.Nodup)
    (hj : ids[j]? = some x) : (db.addHeaders ids s).height? x = some (s + j) := by
  induction ids generalizing db s j with
  | nil => simp at hj
  | cons i is ih =>
    rw [List.nodup_cons] at hnd
    show ((db.put i s).addHeaders is (s + 1)).height? x = some (s + j)
    cases j with
    | zero =>
      obtain rfl : i = x := by simpa using hj
      rw [height?_addHeaders_of_not_mem _ _ hnd.1, height?_put, if_pos rfl]; rfl
    | succ j => rw [ih _ _ hnd.2 (by simpa using hj), Nat.add_assoc, Nat.add_comm 1]

theorem len_pred_succ {α} {l : List α} (h : l ≠ []) : l.length - 1 + 1 = l.length :=
  Nat.sub_add_cancel (List.length_pos_iff.mpr h)

theorem width_pos (w : Which) : 0 < width w := by
  cases w <;> decide

theorem file_setFile (d : Durable) (w : Which) (f : FileSt) : (d.setFile w f).file w = f := by
  cases w <;> rfl

theorem setFile_db (d : Durable) (w : Which) (f : FileSt) : (d.setFile w f).db = d.db := by
  cases w <;> rfl

theorem setFile_file (d : Durable) (w : Which) : d.setFile w (d.file w) = d := by
  cases w <;> rfl

theorem setFile_setFile (d : Durable) (w : Which) (f g : FileSt) :
    (d.setFile w f).setFile w g = d.setFile w g := by
  cases w <;> rfl

theorem btipHeight?_setFile (d : Durable) (w : Which) (f : FileSt) :
    btipHeight? (d.setFile w f) = btipHeight? d := by
  cases w <;> rfl

theorem ftipHeight?_setFile (d : Durable) (w : Which) (f : FileSt) :
    ftipHeight? (d.setFile w f) = ftipHeight? d := by
  cases w <;> rfl

theorem appendAll_of_junk_eq_zero (f : FileSt) (ids : List Nat) {w : Nat} (hj : f.junk = 0) (hw : 0 < w) :
    f.appendAll w ids = { f with ents := f.ents ++ ids } := by
  simp [FileSt.appendAll, FileSt.appendBytes, hj, Nat.mul_div_cancel _ hw]

theorem appendAll_clean (xs ids : List Nat) (w : Nat) (hw : 0 < w) :
    ({ ents := xs } : FileSt).appendAll w ids = { ents := xs ++ ids } :=
  appendAll_of_junk_eq_zero _ ids rfl hw

/-- an append cut after `t` bytes leaves some whole entries of the batch and junk -/
theorem appendBytes_clean (f : FileSt) (ids : List Nat) (w t : Nat) (hj : f.junk = 0) :
    ∃ k j, f.appendBytes w ids t = { f with ents := f.ents ++ ids.take k, junk := j } := by
  simp only [FileSt.appendBytes, hj, if_true]
  exact ⟨_, _, rfl⟩

theorem FileSt.truncateBy_zero (f : FileSt) (w : Nat) : f.truncateBy w 0 = some f := by
  simp [FileSt.truncateBy]

theorem truncateBy_le (f : FileSt) (w : Nat) {k : Nat} (h : k ≤ f.ents.length) :
    f.truncateBy w k = some { f with ents := f.ents.take (f.ents.length - k) } := by
  have : ¬ k * w > f.ents.length * w + f.junk := Nat.not_lt.mpr (Nat.le_add_right_of_le (Nat.mul_le_mul_right w h))
  simp only [FileSt.truncateBy, FileSt.size, this, h, if_true, if_false]

/-- a range inside a file without torn or shifted entries -/
theorem readRange_clean {xs : List Nat} {lo hi : Nat} (h1 : hi < xs.length) (h2 : lo ≤ hi) :
    readRange { ents := xs } lo hi = some ((xs.drop lo).take (hi - lo + 1)) := by
  simp only [readRange, Bool.false_eq_true, if_false, h1, h2, and_self, if_true]

theorem truncateBy_append (f : FileSt) (w : Nat) {xs extra : List Nat} (h : f.ents = xs ++ extra) :
    f.truncateBy w extra.length = some { f with ents := xs } := by
  rw [truncateBy_le _ _ (by simp [h]), h, List.length_append, Nat.add_sub_cancel, List.take_left' rfl]

end Neutrino.Store
