/-
Lemmas for C12, results that arrive after their worker's address was taken over
by a newer connection (`Ev2.late`, `swapIn`): the accounting invariant `KW` and
the verdict invariant `InvA` are preserved by every step of `step2`, hence hold
after every `run2` and, `run` being `run2` over plain events, after every `run`.
-/
import Neutrino.Lemmas.DispatcherJobs
namespace Neutrino.Disp

/-- re-associating a lost job with the entry of its address moves jobs between `lost` and `workers` only -/
theorem KW_swapIn {s : State} (h : KW s) {p : Nat} {w : Worker} {job : Job}
    (hw : findW s.workers p = some w) (hj : job ∈ s.lost) : KW (swapIn s w job) := by
  have hlost : (s.lost.map (·.idx)).Nodup :=
    (((List.sublist_append_right ..).trans (List.sublist_append_right ..)).map _).nodup h.idx_nodup
  have hs := actives_setW h.wn { w with active := some job }
  cases findW_addr hw
  rw [held_of_findW hw] at hs
  refine KW_rearrange h (.append_left _ ?_) (nodup_setW _ _ h.wn)
  exact (perm_swap_assoc ..).trans ((hs.append_right _).trans
    (List.perm_middle.symm.trans (.append_left _ (perm_cons_filter (·.idx) hlost hj).symm)))

theorem step2_late (s : State) (p idx : Nat) (e : Err) :
    step2 s (.late p idx e) =
      if (s.quit || offering s) = true then (s, [Out.ignored]) else stepLateResult s p idx e := rfl

/-- a late result is ignored or is the result arm run on a re-associated state -/
theorem step2_cases {P : State × List Out → Prop} (s : State) (e : Ev2)
    (base : ∀ e, P (step s e)) (ignored : P (s, [.ignored]))
    (late : s.quit = false → ∀ p w job err, findW s.workers p = some w → job ∈ s.lost →
      P (stepResult (swapIn s w job) p err)) : P (step2 s e) := by
  cases e with
  | base e => exact base e
  | late p idx err =>
    rw [step2_late]
    refine if_elim P (fun _ => ignored) fun hc => ?_
    unfold stepLateResult
    cases hf : s.lost.find? (fun j => j.idx == idx) with
    | none => exact ignored
    | some job =>
      cases hw : findW s.workers p with
      | none => exact ignored
      | some w =>
        exact late (Bool.or_eq_false_iff.mp (Bool.not_eq_true _ ▸ hc)).1 p w job err hw (List.mem_of_find?_eq_some hf)

theorem step2_R (s : State) (e : Ev2) : R (abs s) (abs (step2 s e).1) :=
  step2_cases (P := fun r => R (abs s) (abs r.1)) s e (step_R s) (.same _)
    fun hq p w job err _ _ => stepResult_R (swapIn s w job) hq p err

theorem KW_step2 {s : State} (h : KW s) (a : InvA (abs s)) (e : Ev2) : KW (step2 s e).1 :=
  step2_cases (P := fun r => KW r.1) s e (KW_step h a) h
    fun _ p _ _ err hw hj => KW_stepResult (KW_swapIn h hw hj) p err

theorem inv_run2 (s : State) (es : List Ev2) (h : KW s) (a : InvA (abs s)) :
    KW (run2 s es) ∧ InvA (abs (run2 s es)) := by
  induction es generalizing s with
  | nil => exact ⟨h, a⟩
  | cons e es ih => exact ih _ (KW_step2 h a e) (invA_R a (step2_R s e))

theorem run2_base (s : State) (es : List Ev) : run2 s (es.map Ev2.base) = run s es := by
  induction es generalizing s with
  | nil => rfl
  | cons e es ih => exact ih _

theorem inv_run (s : State) (es : List Ev) (h : KW s) (a : InvA (abs s)) :
    KW (run s es) ∧ InvA (abs (run s es)) :=
  run2_base s es ▸ inv_run2 s _ h a

end Neutrino.Disp
