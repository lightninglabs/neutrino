/-
Lemmas for C15 (pushtx.Broadcaster): what one event can do to the handler's map and to the snapshot of a running
rebroadcast, carried along a history by `run_invariant`; the sets `sendTransaction` collects and its verdict on them;
the interval source.
-/
import Neutrino.Spec.PushTx
namespace Neutrino.PushTx

/-- the op reports `id` confirmed (MarkAsConfirmed, or a rebroadcast answered "confirmed") -/
def confirmsId (id : TxId) : Op → Bool
  | .confirm i => i == id
  | .rbStep i r => i == id && r == .confirmed
  | _ => false

/-- the op is a broadcast of `id` that the network accepts (nil or already-in-mempool) -/
def acceptsId (id : TxId) : Op → Bool
  | .bcast tx r => tx.id == id && r.keeps
  | _ => false

theorem mem_ids_remove {i j : TxId} {l : List Tx} : j ∈ ids (remove i l) ↔ j ∈ ids l ∧ j ≠ i := by
  simp only [ids, remove, List.mem_map, List.mem_filter, bne_iff_ne]
  constructor
  · rintro ⟨t, ⟨ht, hne⟩, rfl⟩; exact ⟨⟨t, ht, rfl⟩, hne⟩
  · rintro ⟨⟨t, ht, rfl⟩, hne⟩; exact ⟨t, ⟨ht, hne⟩, rfl⟩

theorem not_mem_ids_remove (i : TxId) (l : List Tx) : i ∉ ids (remove i l) :=
  fun h => (mem_ids_remove.1 h).2 rfl

theorem mem_ids_insert {tx : Tx} {j : TxId} {l : List Tx} : j ∈ ids (insert tx l) ↔ j = tx.id ∨ j ∈ ids l := by
  have h := @mem_ids_remove tx.id j l
  simp only [ids] at h
  simp only [insert, ids, List.map_append, List.mem_append, h, List.map_cons, List.map_nil, List.mem_singleton]
  by_cases e : j = tx.id <;> simp [e]

def holds (s : State) (i : TxId) : Bool :=
  match s.running with
  | some todo => (ids todo).contains i
  | none => false

theorem step_pending (s : State) (o : Op) :
    (step s o).1.pending = s.pending ∨
    (∃ tx r, o = .bcast tx r ∧ r.keeps = true ∧ (step s o).1.pending = insert tx s.pending) ∨
    (∃ i, confirmsId i o = true ∧ (step s o).1.pending = remove i s.pending) := by
  obtain ⟨p, run, st, sc⟩ := s
  cases o with
  | bcast tx r =>
    dsimp only [step]
    cases st
    · cases hr : r.keeps
      · exact .inl rfl
      · exact .inr (.inl ⟨tx, r, rfl, hr, rfl⟩)
    · exact .inl rfl
  | confirm i =>
    cases st
    · exact .inr (.inr ⟨i, decide_eq_true rfl, rfl⟩)
    · exact .inl rfl
  | rbStep i r =>
    cases run with
    | none => exact .inl rfl
    | some todo =>
      dsimp only [step]
      cases (ids todo).contains i
      · exact .inl rfl
      · cases st
        · by_cases hr : r = .confirmed
          · subst hr
            refine .inr (.inr ⟨i, Bool.and_eq_true_iff.2 ⟨decide_eq_true rfl, rfl⟩, ?_⟩)
            cases remove i todo <;> rfl
          · refine .inl ?_
            cases remove i todo <;> exact if_neg hr
        · exact .inl rfl
  | trigger => cases st <;> cases run <;> cases p <;> exact .inl rfl
  | stop => exact .inl rfl
  | closeSub => exact .inl rfl
  | subSpin => exact .inl rfl

theorem step_running (s : State) (o : Op) :
    (step s o).1.running = s.running ∨ (step s o).1.running = some s.pending ∨ (step s o).1.running = none ∨
    ∃ todo i, s.running = some todo ∧ (step s o).1.running = some (remove i todo) := by
  obtain ⟨p, run, st, sc⟩ := s
  cases o with
  | trigger =>
    exact match st, run, p with
    | false, none, _ :: _ => .inr (.inl rfl)
    | false, none, [] => .inl rfl
    | false, some _, _ => .inl rfl
    | true, _, _ => .inl rfl
  | rbStep i r =>
    cases run with
    | none => exact .inl rfl
    | some todo =>
      dsimp only [step]
      cases (ids todo).contains i
      · exact .inl rfl
      · cases st
        · cases hrm : remove i todo
          · exact .inr (.inr (.inl rfl))
          · exact .inr (.inr (.inr ⟨todo, i, rfl, by rw [hrm]; rfl⟩))
        · exact .inr (.inr (.inl rfl))
  | bcast tx r =>
    dsimp only [step]
    cases st <;> cases r.keeps <;> exact .inl rfl
  | confirm i => cases st <;> exact .inl rfl
  | stop => exact .inl rfl
  | closeSub => exact .inl rfl
  | subSpin => exact .inl rfl

theorem step_rbStep_not_held (s : State) (i : TxId) (r : Res) (h : holds s i = false) :
    step s (.rbStep i r) = (s, .bad) := by
  obtain ⟨p, run, st, sc⟩ := s
  cases run with
  | none => rfl
  | some todo => exact if_neg (by rw [show (ids todo).contains i = false from h]; exact Bool.noConfusion)

theorem trigger_started (s : State) (snap : List TxId) :
    (step s .trigger).2 = .started snap ↔
      s.stopped = false ∧ s.running = none ∧ s.pending ≠ [] ∧ snap = ids s.pending := by
  obtain ⟨p, run, st, sc⟩ := s
  exact match st, run, p with
  | false, none, _ :: _ =>
    ⟨fun h => ⟨rfl, rfl, List.cons_ne_nil _ _, (Out.started.inj h).symm⟩, fun h => h.2.2.2 ▸ rfl⟩
  | false, none, [] => ⟨Out.noConfusion, fun h => absurd rfl h.2.2.1⟩
  | false, some _, _ => ⟨Out.noConfusion, fun h => nomatch h.2.1⟩
  | true, _, _ => ⟨Out.noConfusion, fun h => Bool.noConfusion h.1⟩

theorem step_bcast_ok (s : State) (tx : Tx) (r : Res) (h : (step s (.bcast tx r)).2 = .ok) :
    (step s (.bcast tx r)).1.pending = insert tx s.pending := by
  obtain ⟨p, run, st, sc⟩ := s
  revert h
  dsimp only [step]
  cases st
  · cases r.keeps
    · exact Out.noConfusion
    · exact fun _ => rfl
  · exact Out.noConfusion

theorem step_confirm (s : State) (i : TxId) (hs : s.stopped = false) :
    (step s (.confirm i)).1.pending = remove i s.pending := by
  obtain ⟨p, run, st, sc⟩ := s
  cases hs
  rfl

theorem step_rbStep_confirmed (s : State) (i : TxId) (hs : s.stopped = false) (hh : holds s i = true) :
    (step s (.rbStep i .confirmed)).1.pending = remove i s.pending := by
  obtain ⟨p, run, st, sc⟩ := s
  cases hs
  cases run with
  | none => cases hh
  | some todo =>
    dsimp only [holds] at hh
    dsimp only [step]
    rw [if_pos hh]
    cases remove i todo <;> rfl

/-- the `subClosed` flag is read by no arm of the handler -/
theorem step_subClosed (s : State) (o : Op) :
    step { s with subClosed := true } o = ({ (step s o).1 with subClosed := true }, (step s o).2) := by
  obtain ⟨p, run, st, sc⟩ := s
  cases o with
  | bcast tx r =>
    dsimp only [step]
    cases st
    · cases r.keeps <;> rfl
    · rfl
  | confirm i => cases st <;> rfl
  | trigger =>
    exact match st, run, p with
    | false, none, _ :: _ => rfl
    | false, none, [] => rfl
    | false, some _, _ => rfl
    | true, _, _ => rfl
  | rbStep i r =>
    cases run with
    | none => rfl
    | some todo =>
      dsimp only [step]
      cases (ids todo).contains i
      · rfl
      · cases st
        · cases remove i todo <;> rfl
        · rfl
  | stop => rfl
  | closeSub => rfl
  | subSpin => rfl

theorem pending_kept (s : State) (o : Op) (id : TxId) (hin : id ∈ ids s.pending)
    (hc : confirmsId id o = false) : id ∈ ids (step s o).1.pending := by
  rcases step_pending s o with h | ⟨tx, _, _, _, h⟩ | ⟨i, hi, h⟩ <;> rw [h]
  · exact hin
  · exact mem_ids_insert.2 (.inr hin)
  · exact mem_ids_remove.2 ⟨hin, fun e => by rw [e, hi] at hc; cases hc⟩

theorem absent_kept (s : State) (o : Op) (id : TxId) (hout : id ∉ ids s.pending)
    (ha : acceptsId id o = false) : id ∉ ids (step s o).1.pending := by
  rcases step_pending s o with h | ⟨tx, r, rfl, hr, h⟩ | ⟨i, _, h⟩ <;> rw [h]
  · exact hout
  · intro hm
    rcases mem_ids_insert.1 hm with e | e
    · simp [acceptsId, hr, e] at ha
    · exact hout e
  · exact fun hm => hout (mem_ids_remove.1 hm).1

def NoId (id : TxId) (s : State) : Prop :=
  id ∉ ids s.pending ∧ ∀ todo, s.running = some todo → id ∉ ids todo

theorem noId_step (s : State) (o : Op) (id : TxId) (h : NoId id s) (ha : acceptsId id o = false) :
    NoId id (step s o).1 := by
  refine ⟨absent_kept s o id h.1 ha, fun todo' h' => ?_⟩
  rcases step_running s o with e | e | e | ⟨todo, i, hr, e⟩ <;> rw [e] at h'
  · exact h.2 _ h'
  · cases h'; exact h.1
  · cases h'
  · cases h'; exact fun hm => h.2 todo hr (mem_ids_remove.1 hm).1

theorem NoId.not_held {id : TxId} {s : State} (h : NoId id s) : holds s id = false := by
  unfold holds
  cases hr : s.running with
  | none => rfl
  | some todo => simpa using h.2 todo hr

theorem run_invariant {P : State → Prop} (ops : List Op) (hstep : ∀ s, ∀ o ∈ ops, P s → P (step s o).1)
    (s : State) (h : P s) : P (run s ops) := by
  induction ops generalizing s with
  | nil => exact h
  | cons o os ih =>
    exact ih (fun s o ho => hstep s o (List.mem_cons_of_mem _ ho)) _ (hstep s o (List.mem_cons_self ..) h)

theorem pending_kept_run (ops : List Op) (s : State) (id : TxId) (hin : id ∈ ids s.pending)
    (hc : ∀ o ∈ ops, confirmsId id o = false) : id ∈ ids (run s ops).pending :=
  run_invariant ops (fun s o ho h => pending_kept s o id h (hc o ho)) s hin

theorem absent_kept_run (ops : List Op) (s : State) (id : TxId) (hout : id ∉ ids s.pending)
    (ha : ∀ o ∈ ops, acceptsId id o = false) : id ∉ ids (run s ops).pending :=
  run_invariant ops (fun s o ho h => absent_kept s o id h (ha o ho)) s hout

theorem noId_run (ops : List Op) (s : State) (id : TxId) (h : NoId id s)
    (ha : ∀ o ∈ ops, acceptsId id o = false) : NoId id (run s ops) :=
  run_invariant ops (fun s o ho h => noId_step s o id h (ha o ho)) s h

/-- invariant of the response handler with the guard in place -/
structure CollInv (s : Collect) : Prop where
  sub : ∀ x ∈ s.rejections, x.1 ∈ s.replies
  closed : ∀ x ∈ s.rejections, x.1 ∈ s.closed
  nodup : (s.rejections.map (·.1)).Nodup

theorem collInv_init : CollInv {} := ⟨fun _ h => (nomatch h), fun _ h => (nomatch h), List.nodup_nil⟩

theorem collInv_step (s : Collect) (m : PeerMsg) (h : CollInv s) : CollInv (collectStep true s m) := by
  cases m with
  | getdata p =>
    refine iteInduction (fun _ => h) fun _ => iteInduction (fun _ => h) fun _ => ?_
    exact ⟨fun x hx => List.mem_append_left _ (h.sub x hx), h.closed, h.nodup⟩
  | timeout p => exact ⟨h.sub, fun x hx => List.mem_cons_of_mem _ (h.closed x hx), h.nodup⟩
  | reject p c =>
    refine iteInduction (fun _ => h) fun hcl => iteInduction (fun _ => h) fun hg => ?_
    have hrep : p ∈ s.replies := by simpa using hg
    -- an open peer has no rejection on record yet, so nothing is filtered out
    have hnot : ∀ a ∈ s.rejections, a.1 ≠ p := fun a ha e => hcl (by simpa [← e] using h.closed a ha)
    have hfil : s.rejections.filter (fun x => x.1 != p) = s.rejections :=
      List.filter_eq_self.mpr fun a ha => bne_iff_ne.2 (hnot a ha)
    rw [hfil]
    refine ⟨List.forall_mem_append.2 ⟨h.sub, List.forall_mem_singleton.2 hrep⟩,
      List.forall_mem_append.2 ⟨fun x hx => List.mem_cons_of_mem _ (h.closed x hx),
        List.forall_mem_singleton.2 (List.mem_cons_self ..)⟩, ?_⟩
    rw [List.map_append, List.nodup_append]
    refine ⟨h.nodup, List.pairwise_singleton _ _, fun a ha b hb e => ?_⟩
    obtain ⟨y, hy, rfl⟩ := List.mem_map.mp ha
    exact hnot y hy (e.trans (List.mem_singleton.1 hb))

theorem collInv_from (msgs : List PeerMsg) (s : Collect) (h : CollInv s) : CollInv (collectFrom true s msgs) := by
  induction msgs generalizing s with
  | nil => exact h
  | cons m ms ih => exact ih _ (collInv_step s m h)

/-- `c` has, beyond what `s` has, at most the sender of `m`, in the set that the kind of `m` names -/
def AddsSender (m : PeerMsg) (s c : Collect) : Prop :=
  (∀ p ∈ c.replies, p ∈ s.replies ∨ m = .getdata p) ∧ (∀ x ∈ c.rejections, x ∈ s.rejections ∨ m = .reject x.1 x.2)

theorem collectStep_origin (guard : Bool) (s : Collect) (m : PeerMsg) : AddsSender m s (collectStep guard s m) := by
  have same : AddsSender m s s := ⟨fun _ => .inl, fun _ => .inl⟩
  cases m with
  | getdata q =>
    refine iteInduction (fun _ => same) fun _ => iteInduction (fun _ => same) fun _ => ⟨fun p hp => ?_, same.2⟩
    rcases List.mem_append.mp hp with hp | hp
    · exact .inl hp
    · rw [List.mem_singleton.1 hp]; exact .inr rfl
  | reject q c =>
    refine iteInduction (fun _ => same) fun _ => iteInduction (fun _ => same) fun _ => ⟨same.1, fun x hx => ?_⟩
    rcases List.mem_append.mp hx with hx | hx
    · exact .inl (List.mem_filter.mp hx).1
    · rw [List.mem_singleton.1 hx]; exact .inr rfl
  | timeout q => exact same

theorem collect_origin (guard : Bool) (msgs : List PeerMsg) (s : Collect) :
    (∀ p ∈ (collectFrom guard s msgs).replies, p ∈ s.replies ∨ PeerMsg.getdata p ∈ msgs) ∧
    (∀ x ∈ (collectFrom guard s msgs).rejections, x ∈ s.rejections ∨ PeerMsg.reject x.1 x.2 ∈ msgs) := by
  induction msgs generalizing s with
  | nil => exact ⟨fun _ => .inl, fun _ => .inl⟩
  | cons m ms ih =>
    have h1 := collectStep_origin guard s m
    have h2 := ih (collectStep guard s m)
    exact ⟨fun p hp => (h2.1 p hp).elim (fun h => (h1.1 p h).imp_right fun e => List.mem_cons.2 (.inl e.symm))
        fun h => .inr (List.mem_cons_of_mem _ h),
      fun x hx => (h2.2 x hx).elim (fun h => (h1.2 x h).imp_right fun e => List.mem_cons.2 (.inl e.symm))
        fun h => .inr (List.mem_cons_of_mem _ h)⟩

/-- every peer that replied (asked for the tx with getdata) also rejected it -/
def AllRepliersRejected (q : Replies) : Prop := ∀ p ∈ q.replies, p ∈ q.rejections.map (·.1)

/-- the share of the replying peers that called the tx invalid reaches `num/den` -/
def InvalidShareReached (num den : Nat) (q : Replies) : Prop :=
  (q.rejections.filter (fun x => decide (x.2 = Code.invalid ∧ x.1 ∈ q.replies))).length * den ≥ num * q.replies.length

/-- every rejection comes from a peer that had requested the transaction -/
def RejectersReplied (q : Replies) : Prop := ∀ x ∈ q.rejections, x.1 ∈ q.replies

theorem subset_of_nodup_length_le {α : Type} {l1 l2 : List α} (hnd : l1.Nodup) (hsub : l1 ⊆ l2)
    (hlen : l2.length ≤ l1.length) : l2 ⊆ l1 := by
  intro x hx
  apply Classical.byContradiction
  intro hn
  have := List.Nodup.length_le_of_subset (List.nodup_cons.2 ⟨hn, hnd⟩) (List.cons_subset.2 ⟨hx, hsub⟩)
  exact Nat.not_succ_le_self _ (Nat.le_trans this hlen)

theorem verdict_sets (op : String) (hop : op = ">=" ∨ op = ">") (num den : Nat) (iter : List Code) (q : Replies)
    (hsub : RejectersReplied q) (hnd : (q.rejections.map (·.1)).Nodup) (c : Code)
    (hv : verdict op num den iter q = some c) :
    AllRepliersRejected q ∨ InvalidShareReached num den q := by
  unfold verdict at hv
  by_cases h0 : q.replies.length = 0
  · rw [if_pos h0] at hv; cases hv
  rw [if_neg h0] at hv
  by_cases h1 : q.replies.length = q.rejections.length
  · refine .inl (subset_of_nodup_length_le hnd (fun x hx => ?_) (by rw [List.length_map, h1]; exact Nat.le_refl _))
    obtain ⟨y, hy, rfl⟩ := List.mem_map.mp hx
    exact hsub y hy
  rw [if_neg h1] at hv
  by_cases h2 : q.rejections.length > 0 ∧
      cmpOp op (countCode .invalid q.rejections * den) (num * q.replies.length) = true
  · -- every rejecter replied, so the filter of the definition is the one `countCode` uses
    have hfil : (q.rejections.filter (fun x => decide (x.2 = Code.invalid ∧ x.1 ∈ q.replies))) =
        q.rejections.filter (fun x => decide (x.2 = Code.invalid)) :=
      List.filter_congr fun x hx => by simp [hsub x hx]
    have hc := h2.2
    simp only [countCode] at hc
    refine .inr ?_
    rw [InvalidShareReached, hfil]
    rcases hop with rfl | rfl
    · simpa [cmpOp] using hc
    · exact Nat.le_of_lt (by simpa [cmpOp] using hc)
  · rw [if_neg h2] at hv; cases hv

/-- with the handler running, each of the three paths of `triggerRebroadcast` re-arms a source that is
re-armed both where a rebroadcast is started and where one is found running -/
theorem rearmed_trigger (iv : IntervalSrc) (s : State) (h1 : iv.tickRearmAcquired = true)
    (h2 : iv.tickRearmBusy = true) (hs : s.stopped = false) : rearmed iv true (step s .trigger).2 = true := by
  obtain ⟨p, run, st, sc⟩ := s
  cases hs
  exact match run, p with
  | some _, _ => h2
  | none, [] => h1
  | none, _ :: _ => h1

theorem tstep_armed (iv : IntervalSrc) (hiv : iv.sound = true) (t : TState) (ha : t.armed = true) (o : TOp) :
    (tstep iv t o).1.armed = true := by
  cases o with
  | op o => simp [tstep, ha]
  | tick =>
    simp only [tstep, ha, Bool.not_true, Bool.false_or]
    cases hs : t.core.stopped with
    | true => simpa using ha
    | false =>
      simp only [Bool.false_eq_true, ↓reduceIte]
      simp only [IntervalSrc.sound, Bool.or_eq_true, Bool.and_eq_true] at hiv
      rcases hiv with hp | ⟨h1, h2⟩
      · simp [hp]
      · simp [rearmed_trigger iv t.core h1 h2 hs]

theorem tstep_core (iv : IntervalSrc) (t : TState) (ha : t.armed = true) (o : TOp) :
    (tstep iv t o).1.core = (step t.core o.toOp).1 ∧ (tstep iv t o).2 = (step t.core o.toOp).2 := by
  cases o with
  | op o => exact ⟨rfl, rfl⟩
  | tick =>
    simp only [tstep, ha, Bool.not_true, Bool.false_or, TOp.toOp]
    cases hs : t.core.stopped with
    | true => simp [step, hs]
    | false => simp

theorem trun_sound (iv : IntervalSrc) (hiv : iv.sound = true) (ops : List TOp) (t : TState) (ha : t.armed = true) :
    (trun iv t ops).armed = true ∧ (trun iv t ops).core = run t.core (ops.map TOp.toOp) := by
  induction ops generalizing t with
  | nil => exact ⟨ha, rfl⟩
  | cons o os ih =>
    have h := ih (tstep iv t o).1 (tstep_armed iv hiv t ha o)
    rw [(tstep_core iv t ha o).1] at h
    exact h

end Neutrino.PushTx
