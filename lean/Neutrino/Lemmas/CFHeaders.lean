/-
Lemmas about the model of the filter-header commit path: the state invariant
(`Inv`) and its preservation by every operation.
-/
import Neutrino.Spec.CFHeaders
namespace Neutrino.CFHeaders

/-- consecutive entries are `H`-successors -/
def IsChain (H : FHash → Hdr → Hdr) : List Hdr → Prop
  | [] => True
  | [_] => True
  | a :: b :: r => (∃ f, b = H f a) ∧ IsChain H (b :: r)

/-- The state invariant: one block per filter header, those blocks are the
current chain up to the filter tip, the filter store is a non-empty hash chain. -/
structure Inv (H : FHash → Hdr → Hdr) (s : St) : Prop where
  len    : s.fblk.length = s.fstore.length
  pre    : s.fblk <+: s.blocks
  ne     : s.fstore ≠ []
  chain  : IsChain H s.fstore

theorem chainFrom_length (H : FHash → Hdr → Hdr) (p : Hdr) (fs : List FHash) :
    (chainFrom H p fs).length = fs.length := by
  induction fs generalizing p with
  | nil => rfl
  | cons f fs ih => simp only [chainFrom, List.length_cons, ih]

theorem isChain_chainFrom (H : FHash → Hdr → Hdr) (a : Hdr) (fs : List FHash) :
    IsChain H (a :: chainFrom H a fs) := by
  induction fs generalizing a with
  | nil => trivial
  | cons f fs ih => exact ⟨⟨f, rfl⟩, ih (H f a)⟩

theorem isChain_append_chainFrom {H : FHash → Hdr → Hdr} {t : Hdr} (fs : List FHash) {l : List Hdr}
    (hc : IsChain H l) (hl : l.getLast? = some t) : IsChain H (l ++ chainFrom H t fs) := by
  induction l with
  | nil => cases hl
  | cons a r ih =>
    cases r with
    | nil => cases hl; exact isChain_chainFrom H a fs
    | cons b r => exact ⟨hc.1, ih hc.2 hl⟩

theorem isChain_prefix {H : FHash → Hdr → Hdr} {l m : List Hdr} (hp : m <+: l) (hc : IsChain H l) :
    IsChain H m := by
  obtain ⟨t, rfl⟩ := hp
  induction m with
  | nil => trivial
  | cons a m ih =>
    cases m with
    | nil => trivial
    | cons b m => exact ⟨hc.1, ih hc.2⟩

theorem heightOf_lt {bs : List Blk} {b : Blk} {e : Nat} (h : heightOf bs b = some e) : e < bs.length := by
  induction bs generalizing e with
  | nil => cases h
  | cons x xs ih =>
    unfold heightOf at h
    split at h
    · cases h; exact Nat.zero_lt_succ _
    · obtain ⟨e', he', rfl⟩ := Option.map_eq_some_iff.mp h
      exact Nat.succ_lt_succ (ih he')

theorem heightOf_getElem {l : List Blk} {e : Nat} {b : Blk} (hn : l.Nodup) (h : l[e]? = some b) :
    heightOf l b = some e := by
  induction l generalizing e with
  | nil => cases h
  | cons x xs ih =>
    unfold heightOf
    cases e with
    | zero => cases h; exact if_pos rfl
    | succ e =>
      have hx : x ≠ b := fun hxb => (List.nodup_cons.mp hn).1 (hxb ▸ List.mem_of_getElem? h)
      rw [if_neg hx, ih (List.nodup_cons.mp hn).2 h]
      rfl

theorem writeMsg_of_ok (H : FHash → Hdr → Hdr) (s : St) (prev : Hdr) (stop : Blk) (hashes : List FHash) (e : Nat)
    (hl : s.fstore.getLast? = some prev) (hh : heightOf s.blocks stop = some e)
    (hn0 : hashes.length ≠ 0) (hn1 : hashes.length ≤ e + 1)
    (ha : e + 1 - hashes.length = s.fstore.length) :
    writeMsg H s prev stop hashes =
      ({ s with fstore := s.fstore ++ chainFrom H prev hashes,
                fblk := s.fblk ++ (s.blocks.drop s.fstore.length).take hashes.length,
                ntf := s.ntf ++ connNtfs s.fstore.length ((s.blocks.drop s.fstore.length).take hashes.length) },
       .ok (((chainFrom H prev hashes).getLast?).getD prev) e) := by
  have hn : ¬ (hashes.length = 0 ∨ e + 1 < hashes.length) := fun h => h.elim hn0 (Nat.not_lt.mpr hn1)
  simp only [writeMsg, hl, hh, hn, ha, ne_eq, not_true_eq_false, ↓reduceIte]

theorem writeMsg_cases (H : FHash → Hdr → Hdr) (s : St) (prev : Hdr) (stop : Blk) (hashes : List FHash) :
    (∃ o, writeMsg H s prev stop hashes = (s, o) ∧ ∀ l e, o ≠ .ok l e) ∨
    ∃ e, s.fstore.getLast? = some prev ∧ heightOf s.blocks stop = some e ∧ hashes.length ≠ 0 ∧
      hashes.length ≤ e + 1 ∧ e + 1 - hashes.length = s.fstore.length := by
  unfold writeMsg
  cases hl : s.fstore.getLast? with
  | none => exact .inl ⟨_, rfl, nofun⟩
  | some tip =>
    cases hh : heightOf s.blocks stop with
    | none => exact .inl (by dsimp only; split <;> exact ⟨_, rfl, nofun⟩)
    | some e =>
      dsimp only
      by_cases hp : tip = prev
      · by_cases hn : hashes.length = 0 ∨ e + 1 < hashes.length
        · exact .inl (by rw [if_neg (not_not_intro hp), if_pos hn]; exact ⟨_, rfl, nofun⟩)
        · by_cases ha : e + 1 - hashes.length = s.fstore.length
          · exact .inr ⟨e, congrArg some hp, rfl, fun h => hn (.inl h), Nat.le_of_not_lt fun h => hn (.inr h), ha⟩
          · exact .inl (by rw [if_neg (not_not_intro hp), if_neg hn, if_pos ha]; exact ⟨_, rfl, nofun⟩)
      · exact .inl (by rw [if_pos hp]; exact ⟨_, rfl, nofun⟩)

theorem inv_append {H : FHash → Hdr → Hdr} {s s' : St} {prev : Hdr} {hashes : List FHash} (hi : Inv H s)
    (hl : s.fstore.getLast? = some prev) (hfit : s.fstore.length + hashes.length ≤ s.blocks.length)
    (h1 : s'.fstore = s.fstore ++ chainFrom H prev hashes)
    (h2 : s'.fblk = s.fblk ++ (s.blocks.drop s.fstore.length).take hashes.length)
    (h3 : s'.blocks = s.blocks) : Inv H s' := by
  obtain ⟨t, ht⟩ := hi.pre
  -- the blocks above the filter tip
  have hd : s.blocks.drop s.fstore.length = t := by rw [← ht, ← hi.len, List.drop_left]
  have hlt : hashes.length ≤ t.length := by
    rw [← hd, List.length_drop]; exact Nat.le_sub_of_add_le' hfit
  refine ⟨?_, ?_, ?_, ?_⟩
  · rw [h1, h2, hd, List.length_append, List.length_append, chainFrom_length, List.length_take, hi.len,
      Nat.min_eq_left hlt]
  · rw [h2, h3, hd, ← ht]
    exact (List.prefix_append_right_inj _).mpr (List.take_prefix _ t)
  · rw [h1]; exact fun h => hi.ne (List.append_eq_nil_iff.mp h).1
  · rw [h1]; exact isChain_append_chainFrom _ hi.chain hl

theorem inv_writeMsg {H : FHash → Hdr → Hdr} {s : St} (hi : Inv H s) (prev : Hdr) (stop : Blk)
    (hashes : List FHash) : Inv H (writeMsg H s prev stop hashes).1 := by
  rcases writeMsg_cases H s prev stop hashes with ⟨o, h, _⟩ | ⟨e, hl, hh, hn0, hn1, ha⟩
  · rw [h]; exact hi
  · have he := heightOf_lt hh
    have h := writeMsg_of_ok H s prev stop hashes e hl hh hn0 hn1 ha
    exact inv_append (hashes := hashes) hi hl (by rw [← ha, Nat.sub_add_cancel hn1]; exact he)
      (by rw [h]) (by rw [h]) (by rw [h])

theorem writeMsg_fstore (H : FHash → Hdr → Hdr) (s : St) (prev : Hdr) (stop : Blk) (hashes : List FHash) :
    (writeMsg H s prev stop hashes).1.fstore = s.fstore ∨
    (s.fstore.getLast? = some prev ∧
     (writeMsg H s prev stop hashes).1.fstore = s.fstore ++ chainFrom H prev hashes) := by
  rcases writeMsg_cases H s prev stop hashes with ⟨o, h, _⟩ | ⟨e, hl, hh, hn0, hn1, ha⟩
  · rw [h]; exact .inl rfl
  · rw [writeMsg_of_ok H s prev stop hashes e hl hh hn0 hn1 ha]; exact .inr ⟨hl, rfl⟩

theorem writeMsg_blocks (H : FHash → Hdr → Hdr) (s : St) (prev : Hdr) (stop : Blk) (hashes : List FHash) :
    (writeMsg H s prev stop hashes).1.blocks = s.blocks := by
  rcases writeMsg_cases H s prev stop hashes with ⟨o, h, _⟩ | ⟨e, hl, hh, hn0, hn1, ha⟩
  · rw [h]
  · rw [writeMsg_of_ok H s prev stop hashes e hl hh hn0 hn1 ha]

theorem ban_nil (s : St) (r : Nat) : ban s [] r = s := by
  unfold ban; rw [List.map_nil, List.append_nil]

theorem ban_ban (s : St) (a b : List Peer) (r : Nat) : ban (ban s a r) b r = ban s (a ++ b) r := by
  unfold ban; rw [List.map_append, List.append_assoc]

theorem ban_frame (s : St) (ps : List Peer) (r : Nat) :
    (ban s ps r).fstore = s.fstore ∧ (ban s ps r).fblk = s.fblk ∧ (ban s ps r).blocks = s.blocks :=
  ⟨rfl, rfl, rfl⟩

theorem inv_of_eq {H : FHash → Hdr → Hdr} {s s' : St}
    (h : s'.fstore = s.fstore ∧ s'.fblk = s.fblk ∧ s'.blocks = s.blocks) (hi : Inv H s) : Inv H s' :=
  ⟨by rw [h.1, h.2.1]; exact hi.len, by rw [h.2.1, h.2.2]; exact hi.pre, by rw [h.1]; exact hi.ne,
   by rw [h.1]; exact hi.chain⟩

theorem inv_ban {H : FHash → Hdr → Hdr} {s : St} (hi : Inv H s) (ps : List Peer) (r : Nat) :
    Inv H (ban s ps r) :=
  inv_of_eq (ban_frame s ps r) hi

theorem inv_ext {H : FHash → Hdr → Hdr} {s : St} (hi : Inv H s) (ids : List Blk) :
    Inv H { s with blocks := s.blocks ++ ids } :=
  ⟨hi.len, hi.pre.trans (List.prefix_append _ _), hi.ne, hi.chain⟩

theorem accept_some {n : Nat} {msgs : List Msg} {m : Msg} (h : accept n msgs = some m) :
    m.stopOk = true ∧ m.hashes.length = n := by
  have := List.find?_some h
  simpa only [Bool.and_eq_true, beq_iff_eq] using this

/-- `gather` and `filtersAt` are of this form -/
theorem mem_filterMap_pair {α β : Type} (f : α → Option β) (L : List α) (x : α × β) :
    x ∈ L.filterMap (fun p => (f p).map (fun m => (p, m))) ↔ x.1 ∈ L ∧ f x.1 = some x.2 := by
  simp only [List.mem_filterMap, Option.map_eq_some_iff]
  exact ⟨fun ⟨p, hp, m, hm, e⟩ => e ▸ ⟨hp, hm⟩, fun ⟨hp, hm⟩ => ⟨x.1, hp, x.2, hm, rfl⟩⟩

theorem mem_gather {s : St} {net : Net} {n : Nat} {pm : Peer × Msg} :
    pm ∈ gather s net n ↔ pm.1 ∈ net.peers.filter (live s) ∧ accept n (net.resps pm.1) = some pm.2 :=
  mem_filterMap_pair (fun p => accept n (net.resps p)) _ pm

/-- the response filter of `getCFHeadersForAllPeers`: what is kept has the
requested stop hash and exactly the requested number of filter hashes -/
theorem gather_exact (s : St) (net : Net) (n : Nat) (pm : Peer × Msg) (hpm : pm ∈ gather s net n) :
    pm.2.stopOk = true ∧ pm.2.hashes.length = n :=
  accept_some (mem_gather.mp hpm).2

theorem mem_dropPeers {hs : List (Peer × Msg)} {bad : List Peer} {pm : Peer × Msg} :
    pm ∈ dropPeers hs bad ↔ pm ∈ hs ∧ pm.1 ∉ bad := by
  unfold dropPeers
  simp only [List.mem_filter, Bool.not_eq_eq_eq_not, Bool.not_true, List.contains_eq_mem,
    decide_eq_false_iff_not]

theorem idxLoop_ban (net : Net) (start : Nat) (is : List Nat) (s : St) (hs : List (Peer × Msg)) :
    ∃ newb, (idxLoop net start is s hs).1 = ban s newb reasonHeader ∧
      ∀ hs2, (idxLoop net start is s hs).2 = .ok hs2 → ∀ pm ∈ hs2, pm ∈ hs := by
  fun_induction idxLoop net start is s hs with
  | case1 s hs => exact ⟨[], (ban_nil s _).symm, fun _ h => by cases h; exact fun _ h => h⟩
  | case2 i is s hs hm e hd => exact ⟨[], (ban_nil s _).symm, nofun⟩
  | case3 i is s hs hm bad hd ih =>
    obtain ⟨newb, h1, h2⟩ := ih
    exact ⟨bad ++ newb, h1.trans (ban_ban ..), fun hs2 h pm hpm => (mem_dropPeers.mp (h2 hs2 h pm hpm)).1⟩
  | case4 i is s hs hm ih => exact ih

/-- with the filter store cut first, one iteration cuts all three stores to the new block tip -/
theorem rollbackOne_take (s : St) (hl : s.fblk.length = s.fstore.length) (hle : s.fstore.length ≤ s.blocks.length) :
    ∃ s1, rollbackOne true s = (s1, true) ∧ s1.blocks = s.blocks.take (s.blocks.length - 1) ∧
      s1.fstore = s.fstore.take (s.blocks.length - 1) ∧ s1.fblk = s.fblk.take (s.blocks.length - 1) := by
  unfold rollbackOne
  rw [if_pos rfl]
  dsimp only
  split
  · rename_i hc
    have h1 : s.blocks.length - 1 = s.fstore.length - 1 := Nat.le_antisymm hc (Nat.sub_le_sub_right hle 1)
    exact ⟨_, rfl, List.dropLast_eq_take, by rw [h1]; exact List.dropLast_eq_take,
      by rw [h1, ← hl]; exact List.dropLast_eq_take⟩
  · rename_i hc
    have h1 : s.fstore.length ≤ s.blocks.length - 1 := Nat.le_of_pred_lt (Nat.lt_of_not_le hc)
    exact ⟨_, rfl, List.dropLast_eq_take, (List.take_of_length_le h1).symm,
      (List.take_of_length_le (hl ▸ h1)).symm⟩

theorem rollbackLoop_take (h fuel : Nat) (s : St) (hl : s.fblk.length = s.fstore.length)
    (hle : s.fstore.length ≤ s.blocks.length) (hf : s.blocks.length ≤ fuel + 1) :
    ∃ s', rollbackLoop true fuel s h = (s', true) ∧ s'.blocks = s.blocks.take (h + 1) ∧
      s'.fstore = s.fstore.take (h + 1) ∧ s'.fblk = s.fblk.take (h + 1) := by
  induction fuel generalizing s with
  | zero =>
    have hb := Nat.le_trans hf (Nat.succ_le_succ (Nat.zero_le h))
    exact ⟨s, rfl, (List.take_of_length_le hb).symm, (List.take_of_length_le (Nat.le_trans hle hb)).symm,
      (List.take_of_length_le (hl ▸ Nat.le_trans hle hb)).symm⟩
  | succ fuel ih =>
    unfold rollbackLoop
    by_cases hh : s.blocks.length - 1 ≤ h
    · have hb := Nat.sub_le_iff_le_add.mp hh
      rw [if_pos hh]
      exact ⟨s, rfl, (List.take_of_length_le hb).symm, (List.take_of_length_le (Nat.le_trans hle hb)).symm,
        (List.take_of_length_le (hl ▸ Nat.le_trans hle hb)).symm⟩
    · obtain ⟨s1, hr, h1, h2, h3⟩ := rollbackOne_take s hl hle
      rw [if_neg hh, hr]
      have := ih s1 (by rw [h2, h3, List.length_take, List.length_take, hl])
        (by rw [h1, h2, List.length_take, List.length_take]
            exact Nat.le_min.mpr ⟨Nat.min_le_left _ _, Nat.le_trans (Nat.min_le_right _ _) hle⟩)
        (by rw [h1, List.length_take]; exact Nat.le_trans (Nat.min_le_left _ _) (Nat.sub_le_of_le_add hf))
      rw [h1, h2, h3, List.take_take, List.take_take, List.take_take,
        Nat.min_eq_left (Nat.succ_le_of_lt (Nat.lt_of_not_le hh))] at this
      exact this

theorem inv_take {H : FHash → Hdr → Hdr} {s s' : St} {k : Nat} (hi : Inv H s)
    (hb : s'.blocks = s.blocks.take (k + 1)) (hf : s'.fstore = s.fstore.take (k + 1))
    (hfb : s'.fblk = s.fblk.take (k + 1)) : Inv H s' := by
  refine ⟨?_, ?_, ?_, ?_⟩
  · rw [hf, hfb, List.length_take, List.length_take, hi.len]
  · obtain ⟨t, ht⟩ := hi.pre
    rw [hfb, hb, ← ht, List.take_append]
    exact List.prefix_append _ _
  · rw [hf]
    exact fun h => (List.take_eq_nil_iff.mp h).elim (Nat.succ_ne_zero k) hi.ne
  · rw [hf]
    exact isChain_prefix (List.take_prefix _ _) hi.chain

theorem rollBackToHeight_take {H : FHash → Hdr → Hdr} {s : St} (hi : Inv H s) (h : Nat) :
    ∃ s', rollBackToHeight true s h = (s', true) ∧ s'.blocks = s.blocks.take (h + 1) ∧
      s'.fstore = s.fstore.take (h + 1) ∧ s'.fblk = s.fblk.take (h + 1) :=
  rollbackLoop_take h _ s hi.len (hi.len ▸ hi.pre.length_le) (Nat.le_succ _)

theorem rollbackOne_fstore_prefix (ff : Bool) (s : St) : (rollbackOne ff s).1.fstore <+: s.fstore := by
  unfold rollbackOne
  cases ff
  · rw [if_neg Bool.false_ne_true]; dsimp only; split <;> exact List.prefix_refl _
  · rw [if_pos rfl]; dsimp only; split
    · exact List.dropLast_prefix _
    · exact List.prefix_refl _

theorem rollbackLoop_fstore_prefix (ff : Bool) (h fuel : Nat) (s : St) :
    (rollbackLoop ff fuel s h).1.fstore <+: s.fstore := by
  fun_induction rollbackLoop ff fuel s h with
  | case1 => exact List.prefix_refl _
  | case2 => exact List.prefix_refl _
  | case3 fuel s h hh s1 hr =>
    have := rollbackOne_fstore_prefix ff s
    rwa [hr] at this
  | case4 fuel s h hh s1 hr ih =>
    have := rollbackOne_fstore_prefix ff s
    rw [hr] at this
    exact ih.trans this

theorem inv_applyMid {H : FHash → Hdr → Hdr} {s : St} (hi : Inv H s) (h : Nat) (ids : List Blk) :
    Inv H (applyMid true s h ids) := by
  obtain ⟨s', hr, h1, h2, h3⟩ := rollBackToHeight_take hi h
  unfold applyMid
  rw [hr]
  exact inv_ext (inv_take hi h1 h2 h3) ids

theorem applyMid_fstore_prefix (ff : Bool) (s : St) (h : Nat) (ids : List Blk) :
    (applyMid ff s h ids).fstore <+: s.fstore :=
  rollbackLoop_fstore_prefix ff h _ s

theorem wToT_fst (r : St × WOut) : (wToT r).1 = r.1 := by
  obtain ⟨s3, o⟩ := r
  cases o <;> rfl

/-- the end of a round: one surviving response is picked and written under the
stop hash that was read in state `s`; `commitPick H s2` is `commitAt H s2 s2` -/
def commitAt (H : FHash → Hdr → Hdr) (s s2 : St) (pick : Nat) (hs2 : List (Peer × Msg)) : St × TOut :=
  match hs2[pick % hs2.length]? with
  | none => (s2, .errAllBad)
  | some pm =>
    match s.blocks[stopHeight s]? with
    | none => (s2, .errOther)
    | some stopB => wToT (writeMsg H s2 pm.2.prev stopB pm.2.hashes)

/-- what `tipRound` and `tipRoundMid` share: the batch asked for in state `s`
is gathered in state `sm`, wrong previous headers are banned, the detection
loop runs, `commit` gets what is left -/
def round (s sm : St) (net : Net) (commit : St → List (Peer × Msg) → St × TOut) : St × TOut :=
  match s.fstore.getLast? with
  | none => (s, .errOther)
  | some tip =>
    if s.blocks.length - 1 < s.fstore.length - 1 then (s, .errReorg) else
    if s.blocks.length - 1 = s.fstore.length - 1 then (s, .nil) else
    let hs0 := gather sm net (batchLen s)
    let s1 := ban sm ((hs0.filter (fun pm => pm.2.prev != tip)).map (·.1)) reasonHeader
    let hs1 := hs0.filter (fun pm => pm.2.prev == tip)
    if hs1.isEmpty then (s1, .errNoPeers) else
    match idxLoop net s.fstore.length (List.range (batchLen s)) s1 hs1 with
    | (s2, .error e) => (s2, e)
    | (s2, .ok hs2) => commit s2 hs2

theorem tipRound_eq (H : FHash → Hdr → Hdr) (s : St) (net : Net) :
    tipRound H s net = round s s net (fun s2 hs2 => commitAt H s2 s2 net.pick hs2) := rfl

theorem tipRoundMid_eq (H : FHash → Hdr → Hdr) (ff : Bool) (s : St) (net : Net) (h : Nat) (ids : List Blk) :
    tipRoundMid H ff s net h ids =
      round s (applyMid ff s h ids) net (fun s2 hs2 => commitAt H s s2 net.pick hs2) := rfl

theorem commitAt_cases (H : FHash → Hdr → Hdr) (s s2 : St) (pick : Nat) (hs2 : List (Peer × Msg)) :
    (commitAt H s s2 pick hs2).1 = s2 ∨ ∃ pm ∈ hs2, ∃ stopB, s.blocks[stopHeight s]? = some stopB ∧
      (commitAt H s s2 pick hs2).1 = (writeMsg H s2 pm.2.prev stopB pm.2.hashes).1 := by
  unfold commitAt
  cases hg : hs2[pick % hs2.length]? with
  | none => exact .inl rfl
  | some pm =>
    cases hb : s.blocks[stopHeight s]? with
    | none => exact .inl rfl
    | some stopB => exact .inr ⟨pm, List.mem_of_getElem? hg, stopB, rfl, wToT_fst _⟩

theorem round_of_ok (s sm : St) (net : Net) (commit : St → List (Peer × Msg) → St × TOut) (tip : Hdr)
    (s2 : St) (hs2 : List (Peer × Msg)) (hl : s.fstore.getLast? = some tip)
    (ha : s.fstore.length < s.blocks.length)
    (hne : ((gather sm net (batchLen s)).filter (fun pm => pm.2.prev == tip)).isEmpty = false)
    (hloop : idxLoop net s.fstore.length (List.range (batchLen s))
      (ban sm (((gather sm net (batchLen s)).filter (fun pm => pm.2.prev != tip)).map (·.1)) reasonHeader)
      ((gather sm net (batchLen s)).filter (fun pm => pm.2.prev == tip)) = (s2, .ok hs2)) :
    round s sm net commit = commit s2 hs2 := by
  have hpos : 0 < s.fstore.length := List.length_pos_of_mem (List.mem_of_getLast? hl)
  have h1 : ¬ s.blocks.length - 1 < s.fstore.length - 1 :=
    Nat.not_lt.mpr (Nat.sub_le_sub_right (Nat.le_of_lt ha) 1)
  have h2 : ¬ s.blocks.length - 1 = s.fstore.length - 1 := Nat.ne_of_gt (Nat.sub_lt_sub_right hpos ha)
  unfold round
  rw [hl]
  dsimp only
  rw [if_neg h1, if_neg h2, hne, hloop]
  rfl

theorem round_cases (s sm : St) (net : Net) (commit : St → List (Peer × Msg) → St × TOut) :
    (round s sm net commit).1 = s ∨
    ∃ bans, (round s sm net commit).1 = ban sm bans reasonHeader ∨
      ∃ hs2, (∀ pm ∈ hs2, pm ∈ gather sm net (batchLen s)) ∧
        (round s sm net commit).1 = (commit (ban sm bans reasonHeader) hs2).1 := by
  generalize hr : round s sm net commit = r
  unfold round at hr
  cases hl : s.fstore.getLast? with
  | none => rw [hl] at hr; exact .inl (hr ▸ rfl)
  | some tip =>
    rw [hl] at hr
    dsimp only at hr
    by_cases h1 : s.blocks.length - 1 < s.fstore.length - 1
    · rw [if_pos h1] at hr; exact .inl (hr ▸ rfl)
    by_cases h2 : s.blocks.length - 1 = s.fstore.length - 1
    · rw [if_neg h1, if_pos h2] at hr; exact .inl (hr ▸ rfl)
    rw [if_neg h1, if_neg h2] at hr
    right
    by_cases h3 : ((gather sm net (batchLen s)).filter (fun pm => pm.2.prev == tip)).isEmpty = true
    · rw [if_pos h3] at hr; cases hr; exact ⟨_, .inl rfl⟩
    rw [if_neg h3] at hr
    obtain ⟨newb, hb, hsub⟩ := idxLoop_ban net s.fstore.length (List.range (batchLen s))
      (ban sm ((List.filter (fun pm => pm.2.prev != tip) (gather sm net (batchLen s))).map (·.1)) reasonHeader)
      (List.filter (fun pm => pm.2.prev == tip) (gather sm net (batchLen s)))
    generalize idxLoop net s.fstore.length _ _ _ = r' at hb hsub hr
    obtain ⟨s2, e⟩ := r'
    rw [ban_ban] at hb
    cases hb
    cases hr
    cases e with
    | error e => exact ⟨_, .inl rfl⟩
    | ok hs2 => exact ⟨_, .inr ⟨hs2, fun pm hpm => (List.mem_filter.mp (hsub hs2 rfl pm hpm)).1, rfl⟩⟩

theorem tipRoundMid_cases (H : FHash → Hdr → Hdr) (ff : Bool) (s : St) (net : Net) (h : Nat) (ids : List Blk) :
    (tipRoundMid H ff s net h ids).1 = s ∨
    ∃ bans, (tipRoundMid H ff s net h ids).1 = ban (applyMid ff s h ids) bans reasonHeader ∨
      ∃ pm ∈ gather (applyMid ff s h ids) net (batchLen s), ∃ stopB, s.blocks[stopHeight s]? = some stopB ∧
        (tipRoundMid H ff s net h ids).1 =
          (writeMsg H (ban (applyMid ff s h ids) bans reasonHeader) pm.2.prev stopB pm.2.hashes).1 := by
  rw [tipRoundMid_eq]
  rcases round_cases s (applyMid ff s h ids) net (fun s2 hs2 => commitAt H s s2 net.pick hs2) with
    e | ⟨bans, e | ⟨hs2, hsub, e⟩⟩
  · exact .inl e
  · exact .inr ⟨bans, .inl e⟩
  · rcases commitAt_cases H s (ban (applyMid ff s h ids) bans reasonHeader) net.pick hs2 with
      c | ⟨pm, hpm, stopB, hb, c⟩
    · exact .inr ⟨bans, .inl (e.trans c)⟩
    · exact .inr ⟨bans, .inr ⟨pm, hsub pm hpm, stopB, hb, e.trans c⟩⟩

theorem tipRound_cases (H : FHash → Hdr → Hdr) (s : St) (net : Net) :
    ∃ bans, (tipRound H s net).1 = ban s bans reasonHeader ∨
      ∃ pm ∈ gather s net (batchLen s), ∃ stopB,
        (tipRound H s net).1 = (writeMsg H (ban s bans reasonHeader) pm.2.prev stopB pm.2.hashes).1 := by
  rw [tipRound_eq]
  rcases round_cases s s net (fun s2 hs2 => commitAt H s2 s2 net.pick hs2) with e | ⟨bans, e | ⟨hs2, hsub, e⟩⟩
  · exact ⟨[], .inl (e.trans (ban_nil s _).symm)⟩
  · exact ⟨bans, .inl e⟩
  · rcases commitAt_cases H (ban s bans reasonHeader) (ban s bans reasonHeader) net.pick hs2 with
      c | ⟨pm, hpm, stopB, -, c⟩
    · exact ⟨bans, .inl (e.trans c)⟩
    · exact ⟨bans, .inr ⟨pm, hsub pm hpm, stopB, e.trans c⟩⟩

theorem inv_tipRound {H : FHash → Hdr → Hdr} {s : St} (hi : Inv H s) (net : Net) :
    Inv H (tipRound H s net).1 := by
  obtain ⟨bans, e | ⟨pm, -, stopB, e⟩⟩ := tipRound_cases H s net <;> rw [e]
  · exact inv_ban hi bans _
  · exact inv_writeMsg (inv_ban hi bans _) _ _ _

theorem inv_tipRoundMid {H : FHash → Hdr → Hdr} {s : St} (hi : Inv H s) (net : Net) (h : Nat) (ids : List Blk) :
    Inv H (tipRoundMid H true s net h ids).1 := by
  have hb := fun bans => inv_ban (inv_applyMid hi h ids) bans reasonHeader
  rcases tipRoundMid_cases H true s net h ids with e | ⟨bans, e | ⟨pm, -, stopB, -, e⟩⟩ <;> rw [e]
  · exact hi
  · exact hb bans
  · exact inv_writeMsg (hb bans) _ _ _

/-- the filter store grew by appending hash chains of batches, each started at the then-current tip -/
inductive Grows (H : FHash → Hdr → Hdr) : List Hdr → List Hdr → Prop
  | refl (l : List Hdr) : Grows H l l
  | step {l m : List Hdr} (p : Hdr) (hs : List FHash) :
      Grows H l m → m.getLast? = some p → Grows H l (m ++ chainFrom H p hs)

theorem Grows.trans {H : FHash → Hdr → Hdr} {a b c : List Hdr} (h1 : Grows H a b) (h2 : Grows H b c) :
    Grows H a c := by
  induction h2 with
  | refl => exact h1
  | step p hs _ hl ih => exact Grows.step p hs ih hl

theorem grows_writeMsg (H : FHash → Hdr → Hdr) (s : St) (prev : Hdr) (stop : Blk) (hashes : List FHash) :
    Grows H s.fstore (writeMsg H s prev stop hashes).1.fstore := by
  rcases writeMsg_fstore H s prev stop hashes with h | ⟨h1, h2⟩
  · rw [h]; exact Grows.refl _
  · rw [h2]; exact Grows.step prev hashes (Grows.refl _) h1

theorem pickList_ok (cp : List (Peer × List Hdr)) (pick : Nat) (l : List Hdr)
    (h : pickList cp pick = .ok l) : ∃ pc ∈ cp, pc.2 = l := by
  unfold pickList at h
  split at h
  · cases h
  · cases h; exact ⟨_, List.mem_of_getElem? ‹_›, rfl⟩

theorem rcFinish_ok (interval pick before : Nat) (cp2 : List (Peer × List Hdr)) (s2 : St)
    (hs2 : List (Peer × Msg)) (l : List Hdr)
    (h : (rcFinish interval pick before cp2 s2 hs2).2 = .ok l) : ∃ pc ∈ cp2, pc.2 = l := by
  unfold rcFinish at h
  dsimp only at h
  split at h
  · obtain ⟨pc, hpc, e⟩ := pickList_ok _ _ _ h
    exact ⟨pc, (List.mem_filter.mp (List.mem_filter.mp hpc).1).1, e⟩
  · cases h

theorem rcConflict_spec (interval : Nat) (s1 : St) (net : Net) (cp2 : List (Peer × List Hdr)) (start n : Nat) :
    ((rcConflict interval s1 net cp2 start n).1.fstore = s1.fstore ∧
     (rcConflict interval s1 net cp2 start n).1.fblk = s1.fblk ∧
     (rcConflict interval s1 net cp2 start n).1.blocks = s1.blocks) ∧
    ∀ l, (rcConflict interval s1 net cp2 start n).2 = .ok l → ∃ pc ∈ cp2, pc.2 = l := by
  generalize hr : rcConflict interval s1 net cp2 start n = r
  unfold rcConflict at hr
  dsimp only at hr
  split at hr
  · cases hr; exact ⟨⟨rfl, rfl, rfl⟩, nofun⟩
  obtain ⟨newb, hb, -⟩ := idxLoop_ban net start (List.range n) s1 (gather s1 net n)
  generalize idxLoop net start (List.range n) s1 (gather s1 net n) = r' at hb hr
  obtain ⟨s2, e⟩ := r'
  cases hb
  cases e with
  | error e => cases hr; exact ⟨⟨rfl, rfl, rfl⟩, nofun⟩
  | ok hs2 => cases hr; exact ⟨⟨rfl, rfl, rfl⟩, rcFinish_ok _ _ _ _ _ _⟩

theorem resolveConflict_spec (interval : Nat) (hard : Nat → Option Hdr) (s : St) (net : Net)
    (cp : List (Peer × List Hdr)) :
    ((resolveConflict interval hard s net cp).1.fstore = s.fstore ∧
     (resolveConflict interval hard s net cp).1.fblk = s.fblk ∧
     (resolveConflict interval hard s net cp).1.blocks = s.blocks) ∧
    ∀ l, (resolveConflict interval hard s net cp).2 = .ok l →
      ∃ pc ∈ (hardPass interval hard s cp).2, pc.2 = l := by
  generalize hr : resolveConflict interval hard s net cp = r
  unfold resolveConflict at hr
  dsimp only at hr
  by_cases h1 : (hardPass interval hard s cp).2.isEmpty = true
  · rw [if_pos h1] at hr; cases hr; exact ⟨⟨rfl, rfl, rfl⟩, nofun⟩
  rw [if_neg h1] at hr
  cases hc : checkSanity interval (hardPass interval hard s cp).1.fstore (hardPass interval hard s cp).2 with
  | none => rw [hc] at hr; cases hr; exact ⟨⟨rfl, rfl, rfl⟩, pickList_ok _ _⟩
  | some d =>
    rw [hc] at hr
    dsimp only at hr
    by_cases h2 : ((hardPass interval hard s cp).2.filter (fun pc => !(decide (pc.2.length < d)))).isEmpty = true
    · rw [if_pos h2] at hr; cases hr; exact ⟨⟨rfl, rfl, rfl⟩, nofun⟩
    rw [if_neg h2] at hr
    cases hr
    have := rcConflict_spec interval (hardPass interval hard s cp).1 net
      ((hardPass interval hard s cp).2.filter (fun pc => !(decide (pc.2.length < d))))
      (d * interval) (batchLenFrom (hardPass interval hard s cp).1 (d * interval))
    exact ⟨this.1, fun l h => let ⟨pc, hpc, e⟩ := this.2 l h; ⟨pc, (List.mem_filter.mp hpc).1, e⟩⟩

section
variable {H : FHash → Hdr → Hdr} {P : St → Prop}
  (hw : ∀ st prev stop hashes, P st → P (writeMsg H st prev stop hashes).1)
include hw

theorem cpInner_st (interval ncps arr fuel : Nat) (c : CpLoop) (h : P c.st) :
    P (cpInner H interval ncps arr fuel c).st := by
  induction fuel generalizing c with
  | zero => exact h
  | succ fuel ih =>
    unfold cpInner
    cases c.cache.find? (fun e => e.1 == c.curInt) with
    | none => exact h
    | some e =>
      dsimp only
      cases c.st.blocks[(min (e.1 + perQuery) ncps) * interval]? with
      | none => exact h
      | some stopB =>
        dsimp only
        have a := hw c.st (rebase c e arr).1 stopB (rebase c e arr).2 h
        generalize writeMsg H c.st (rebase c e arr).1 stopB (rebase c e arr).2 = r at a
        obtain ⟨st', o⟩ := r
        cases o with
        | ok last e' => exact ih _ a
        | _ => exact a

theorem cpTake_st (interval ncps : Nat) (c : CpLoop) (ev : CpEv) (h : P c.st) :
    P (cpTake H interval ncps c ev).st := by
  unfold cpTake
  simp only [apply_ite CpLoop.st, ite_self]
  exact iteInduction (fun _ => h) fun _ => cpInner_st hw _ _ _ _ _ h

variable (hb : ∀ st ps r, P st → P (ban st ps r))
include hb

theorem cpEvents_st (interval : Nat) (genesis : Hdr) (cps : List Hdr) (startInt : Nat) (evs : List CpEv)
    (c : CpLoop) (h : P c.st) : P (cpEvents H interval genesis cps startInt evs c).st := by
  induction evs generalizing c with
  | nil => exact h
  | cons ev evs ih =>
    unfold cpEvents
    cases handleResp H genesis cps startInt ev with
    | none => exact ih c h
    | some b =>
      cases b with
      | false => exact ih _ (hb _ _ _ h)
      | true =>
        dsimp only
        rw [apply_ite CpLoop.st]
        exact iteInduction (fun _ => ih c h) fun _ => ih _ (cpTake_st hw interval cps.length c ev h)

/-- the checkpointed fetch changes the state only through `writeMsg` and `ban`:
whatever those two keep, it keeps -/
theorem cpRound_st (interval : Nat) (s : St) (cps : List Hdr) (evs : List CpEv) (h : P s) :
    P (cpRound H interval s cps evs).1 := by
  unfold cpRound
  cases s.fstore.getLast? with
  | none => exact h
  | some cur =>
    dsimp only
    rw [apply_ite Prod.fst, apply_ite Prod.fst]
    exact iteInduction (fun _ => h) fun _ => iteInduction (fun _ => h) fun _ => cpEvents_st hw hb _ _ _ _ _ _ h

end

theorem cpRound_ok {H : FHash → Hdr → Hdr} {s : St} (hi : Inv H s) (interval : Nat) (cps : List Hdr)
    (evs : List CpEv) :
    Inv H (cpRound H interval s cps evs).1 ∧ Grows H s.fstore (cpRound H interval s cps evs).1.fstore :=
  cpRound_st (P := fun st => Inv H st ∧ Grows H s.fstore st.fstore)
    (fun st prev stop hashes h => ⟨inv_writeMsg h.1 prev stop hashes, h.2.trans (grows_writeMsg H ..)⟩)
    (fun st ps r h => ⟨inv_ban h.1 ps r, h.2⟩) interval s cps evs ⟨hi, Grows.refl _⟩

theorem inv_step {H : FHash → Hdr → Hdr} {s : St} (hi : Inv H s) (op : Op) : Inv H (step H true s op).1 := by
  cases op with
  | ext ids => exact inv_ext hi ids
  | rb h =>
    obtain ⟨s', hr, h1, h2, h3⟩ := rollBackToHeight_take hi h
    show Inv H (rollBackToHeight true s h).1
    rw [hr]
    exact inv_take hi h1 h2 h3
  | wr prev stop hashes => exact inv_writeMsg hi prev stop hashes
  | tip net => exact inv_tipRound hi net
  | tipMid net h ids => exact inv_tipRoundMid hi net h ids
  | resolve interval hard net cp => exact inv_of_eq (resolveConflict_spec interval hard s net cp).1 hi
  | cp interval cps evs => exact (cpRound_ok hi interval cps evs).1

theorem inv_run {H : FHash → Hdr → Hdr} {s : St} (hi : Inv H s) (ops : List Op) : Inv H (run H true s ops) := by
  induction ops generalizing s with
  | nil => exact hi
  | cons op ops ih => exact ih (inv_step hi op)

end Neutrino.CFHeaders
