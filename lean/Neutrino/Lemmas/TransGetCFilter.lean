/-
The range arithmetic and the store requests of `prepareCFiltersQuery` as the CODE defines them
(Gen/TransQuery.lean, regenerated from query.go on every run) against the model's `rangeOf`.
-/
import Neutrino.Gen.TransQuery
import Neutrino.Lemmas.GetCFilter
namespace Neutrino.GetCFilter
open Neutrino.Gen.TransQuery Neutrino.GoInt

/-- `optimisticBatchType` values as the model's `Batch` (through the regenerated constants) -/
def absBatch (n : Nat) : Option Batch :=
  if n = K_neutrino_noBatch then some .none
  else if n = K_neutrino_forwardBatch then some .forward
  else if n = K_neutrino_reverseBatch then some .reverse
  else none

theorem trans_batch_distinct : K_neutrino_noBatch ≠ K_neutrino_forwardBatch ∧
    K_neutrino_noBatch ≠ K_neutrino_reverseBatch ∧ K_neutrino_forwardBatch ≠ K_neutrino_reverseBatch := by decide

theorem absBatch_cases (n : Nat) : (n = 0 ∧ absBatch n = some .none) ∨ (n = 1 ∧ absBatch n = some .forward) ∨
    (n = 2 ∧ absBatch n = some .reverse) ∨ (n ≠ 0 ∧ n ≠ 1 ∧ n ≠ 2 ∧ absBatch n = none) := by
  by_cases h0 : n = 0
  · exact Or.inl ⟨h0, h0 ▸ rfl⟩
  by_cases h1 : n = 1
  · exact Or.inr (Or.inl ⟨h1, h1 ▸ rfl⟩)
  by_cases h2 : n = 2
  · exact Or.inr (Or.inr (Or.inl ⟨h2, h2 ▸ rfl⟩))
  · exact Or.inr (Or.inr (Or.inr ⟨h0, h1, h2, by
      unfold absBatch K_neutrino_noBatch K_neutrino_forwardBatch K_neutrino_reverseBatch
      rw [if_neg h0, if_neg h1, if_neg h2]⟩))

/-- peeling the failing branches of a translated function that returns `(result, error)` -/
theorem ite_fail_right {α : Type} {c : Prop} [Decidable c] {A : Option α × Bool} {q : α} :
    ((if c then A else (none, true)) = (some q, false)) ↔ c ∧ A = (some q, false) := by
  by_cases h : c <;> simp [h]

theorem ite_fail_left {α : Type} {c : Prop} [Decidable c] {A : Option α × Bool} {q : α} :
    ((if c then (none, true) else A) = (some q, false)) ↔ ¬ c ∧ A = (some q, false) := by
  by_cases h : c <;> simp [h]

section
variable (blockHash : Atom) (ft bt : Nat) (mb : Int) (self : Atom) (f1 : T_wire_BlockHeader → Atom)
  (f2 : Option T_headerfs_BlockStamp × Bool) (f3 : Atom → Option T_wire_BlockHeader × Nat × Bool)
  (f4 : Nat → Atom → List T_wire_BlockHeader × Nat × Bool) (f5 : Int → Atom × Bool)
  (f6 : Nat → Atom → List Atom × Nat × Bool)

/-- **No query above the filter-header tip, as the code says it**: with both lookups succeeding
and the block's height above the best filter-header height, `prepareCFiltersQuery` fails, in
every batching mode and for every batch size (the repair `C05_no_query_above_tip` is about). -/
theorem trans_prepare_above_tip (herr1 : (f3 blockHash).2.2 = false) (herr2 : f2.2 = false)
    (h : (deref f2.1).Height < ((f3 blockHash).2.1 : Int)) :
    prepareCFiltersQuery blockHash ft bt mb self f1 f2 f3 f4 f5 f6 = (none, true) := by
  unfold prepareCFiltersQuery
  simp only [herr1, herr2, h, ↓reduceIte]

theorem trans_prepare_lookup_err (h : (f3 blockHash).2.2 = true ∨ f2.2 = true) :
    prepareCFiltersQuery blockHash ft bt mb self f1 f2 f3 f4 f5 f6 = (none, true) := by
  simp only [prepareCFiltersQuery]
  rcases h with h | h
  · simp only [h, Bool.true_eq_false, ↓reduceIte]
  · simp only [h, Bool.true_eq_false, ↓reduceIte, ite_self]

/-- **The prepared range is the model's `rangeOf`, and the stores are asked for exactly that
range**: whenever `prepareCFiltersQuery` returns a query, both lookups succeeded, the target is at
or below the best filter-header height, the batch type is one of the three known ones, start/stop
are `rangeOf height best batch maxBatch`, the stop hash is what `GetBlockHash(stop)` answered, both
`FetchHeaderAncestors` calls were asked for `uint32(stop-start+1)` ancestors of that hash and each
answered with exactly one more entry, and the query carries the target hash and filter type.

The proof does not look at how the function is spelled (clamps as `if` or `min`/`max`, the range
computation inline or in a local closure, which part became a continuation def): it unfolds everything,
peels the failing branches and turns the clamps into `max`/`min`; what is left of the arithmetic is, for
each batch type, `rangeOf_clamped`. -/
theorem trans_prepare_ok (q : T_neutrino_cfiltersQuery)
    (h : prepareCFiltersQuery blockHash ft bt mb self f1 f2 f3 f4 f5 f6 = (some q, false)) :
    (f3 blockHash).2.2 = false ∧ f2.2 = false ∧ ((f3 blockHash).2.1 : Int) ≤ (deref f2.1).Height ∧
    ∃ b, absBatch bt = some b ∧
      (q.startHeight, q.stopHeight) = rangeOf ((f3 blockHash).2.1 : Int) (deref f2.1).Height b mb ∧
      (f5 q.stopHeight) = (q.stopHash, false) ∧
      (f4 (toU 32 (q.stopHeight - q.startHeight + 1)) q.stopHash).2.2 = false ∧
      len (f4 (toU 32 (q.stopHeight - q.startHeight + 1)) q.stopHash).1
        = ((toU 32 (q.stopHeight - q.startHeight + 1) : Nat) : Int) + 1 ∧
      (f6 (toU 32 (q.stopHeight - q.startHeight + 1)) q.stopHash).2.2 = false ∧
      q.filterHeaders = (f6 (toU 32 (q.stopHeight - q.startHeight + 1)) q.stopHash).1 ∧
      len q.filterHeaders = ((toU 32 (q.stopHeight - q.startHeight + 1) : Nat) : Int) + 1 ∧
      q.headerIndex = prepareCFiltersQuery_loop1 f1 (f4 (toU 32 (q.stopHeight - q.startHeight + 1)) q.stopHash).1
        (rangeUp 1 (len (f4 (toU 32 (q.stopHeight - q.startHeight + 1)) q.stopHash).1)) [] ∧
      q.targetHash = blockHash ∧ q.filterType = ft ∧ q.cs = self := by
  simp only [prepareCFiltersQuery, prepareCFiltersQuery_k1, ite_fail_right, ite_fail_left] at h
  obtain ⟨e1, e2, e3, h⟩ := h
  refine ⟨e1, e2, Int.not_lt.mp e3, ?_⟩
  rcases absBatch_cases bt with ⟨hb, ha⟩ | ⟨hb, ha⟩ | ⟨hb, ha⟩ | ⟨hb0, hb1, hb2, _⟩
  case inr.inr.inr => simp only [hb0, hb1, hb2, ↓reduceIte] at h; cases h
  all_goals
    subst hb
    simp only [↓reduceIte, Nat.succ_ne_self, Nat.reduceEqDiff, ite_max, ite_min, ite_fail_right, Prod.mk.injEq,
      Option.some.injEq, and_true] at h
    obtain ⟨a1, a2, a3, a4, a5, rfl⟩ := h
    -- reduce the projections of the returned struct before comparing with what the stores were asked
    dsimp only
    exact ⟨_, ha, Eq.symm (rangeOf_clamped _ _ _ _), Prod.ext rfl a1, a2, a3, a4, rfl, a5, rfl, rfl, rfl, rfl⟩
end

/-! the header index: `for i := 1; i < len(blockHeaders); i++ { headerIndex[hash(blockHeaders[i])] = i }` -/

theorem erased_key_eq {ν} {a k : Nat} (h : ¬ a = k) :
    (fun e : Nat × ν => !(e.1 == a) && e.1 == k) = fun e => e.1 == k := by
  funext e
  by_cases he : e.1 = k
  · simpa [he] using fun e' : k = a => h e'.symm
  · simp [he]

theorem mhas_minsert {ν} (m : List (Nat × ν)) (a k : Nat) (v : ν) :
    mhas (minsert m a v) k = ((a == k) || mhas m k) := by
  unfold minsert merase mhas
  rw [List.any_cons, List.any_filter]
  by_cases h : a = k
  · simp [h]
  · rw [erased_key_eq h]

theorem mlookup_minsert {ν} [Inhabited ν] (m : List (Nat × ν)) (a k : Nat) (v : ν) :
    mlookup (minsert m a v) k = (if a = k then v else mlookup m k) := by
  unfold minsert merase mlookup
  by_cases h : a = k
  · simp [h]
  · rw [List.find?_cons_of_neg (by simpa using h), List.find?_filter, if_neg h]
    simp only [Bool.decide_and, Bool.decide_eq_true, erased_key_eq h]

/-- invariant of the index loop: the hashes of the positions visited so far are in the index, and what the
index stores for a hash is a visited position that holds it -/
def IndexOk (key : Int → Atom) (done : List Int) (m : List (Atom × Int)) : Prop :=
  (∀ i ∈ done, mhas m (key i) = true) ∧ ∀ k, mhas m k = true → mlookup m k ∈ done ∧ key (mlookup m k) = k

theorem indexOk_loop (f1 : T_wire_BlockHeader → Atom) (bhs : List T_wire_BlockHeader) (is done : List Int)
    (m : List (Atom × Int)) (h : IndexOk (fun i => f1 (idx bhs i)) done m) :
    IndexOk (fun i => f1 (idx bhs i)) (done ++ is) (prepareCFiltersQuery_loop1 f1 bhs is m) := by
  induction is generalizing done m with
  | nil => rwa [List.append_nil]
  | cons i is ih =>
    rw [List.append_cons]
    unfold prepareCFiltersQuery_loop1
    refine ih _ _ ⟨fun j hj => ?_, fun k hk => ?_⟩
    · rw [mhas_minsert]
      rcases List.mem_append.mp hj with hj | hj
      · rw [h.1 j hj, Bool.or_true]
      · rw [List.mem_singleton.mp hj, beq_self_eq_true, Bool.true_or]
    · rw [mhas_minsert] at hk
      rw [mlookup_minsert]
      by_cases e : f1 (idx bhs i) = k
      · rw [if_pos e]; exact ⟨List.mem_append_right _ (List.mem_singleton.mpr rfl), e⟩
      · rw [beq_false_of_ne e, Bool.false_or] at hk
        rw [if_neg e]; exact ⟨List.mem_append_left _ (h.2 k hk).1, (h.2 k hk).2⟩

theorem mem_rangeUp (lo hi i : Int) : i ∈ rangeUp lo hi ↔ lo ≤ i ∧ i < hi := by
  unfold rangeUp
  simp only [List.mem_map, List.mem_range, Int.lt_toNat, Int.ofNat_eq_natCast]
  constructor
  · rintro ⟨k, hk, rfl⟩
    exact ⟨Int.le_add_of_nonneg_right (Int.natCast_nonneg k), Int.add_lt_of_lt_sub_left hk⟩
  · rintro ⟨h1, h2⟩
    have e := Int.toNat_of_nonneg (Int.sub_nonneg_of_le h1)
    exact ⟨(i - lo).toNat, e ▸ Int.sub_lt_sub_right h2 lo, by rw [e, Int.add_comm, Int.sub_add_cancel]⟩

/-- **The header index the code builds**: it holds exactly the hashes of `blockHeaders[1 …]` (position 0,
the header before the range, is not awaited), and the position stored for a hash is a position in
`[1, len)` that holds this hash - so a response naming block `b` is checked against the headers at
`b`'s own position (the code-level counterpart of `mem_mkIndex` / `mkIndex_covers`, on which
`C05_index_aligned` rests). -/
theorem trans_headerIndex (f1 : T_wire_BlockHeader → Atom) (bhs : List T_wire_BlockHeader) (k : Atom) :
    let ix := prepareCFiltersQuery_loop1 f1 bhs (rangeUp 1 (len bhs)) []
    (mhas ix k = true ↔ ∃ i : Int, 1 ≤ i ∧ i < len bhs ∧ f1 (idx bhs i) = k) ∧
    (mhas ix k = true → 1 ≤ mlookup ix k ∧ mlookup ix k < len bhs ∧ f1 (idx bhs (mlookup ix k)) = k) := by
  intro ix
  have h : IndexOk _ _ ix := indexOk_loop f1 bhs (rangeUp 1 (len bhs)) [] [] ⟨nofun, nofun⟩
  rw [List.nil_append] at h
  have pos : mhas ix k = true → _ := fun hm =>
    have ⟨hi, e⟩ := h.2 k hm
    (⟨((mem_rangeUp 1 _ _).mp hi).1, ((mem_rangeUp 1 _ _).mp hi).2, e⟩ :
      1 ≤ mlookup ix k ∧ mlookup ix k < len bhs ∧ f1 (idx bhs (mlookup ix k)) = k)
  exact ⟨⟨fun hm => ⟨_, pos hm⟩, fun ⟨i, h1, h2, e⟩ => e ▸ h.1 i ((mem_rangeUp 1 _ i).mpr ⟨h1, h2⟩)⟩, pos⟩

end Neutrino.GetCFilter
