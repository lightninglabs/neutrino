/-
The index write of a batch as several transactions (Model/Store `indexTxs`,
`writeBlocksSplit`): one transaction is the model's `writeBlocks`.
-/
import Neutrino.Model.Store
namespace Neutrino.Store

theorem putAll_stamped (ids : List Nat) : ∀ (db : Db) (start : Nat),
    db.putAll (stamped ids start) = Db.addHeaders.go db ids start := by
  induction ids with
  | nil => intro db s; rfl
  | cons id rest ih => intro db s; simp only [stamped, Db.putAll, Db.addHeaders.go]; exact ih _ _

theorem putAll_btip (l : List (Nat × Nat)) : ∀ db : Db, (db.putAll l).btip = db.btip := by
  induction l with
  | nil => intro db; rfl
  | cons p rest ih => intro db; obtain ⟨id, h⟩ := p; simp only [Db.putAll]; rw [ih]; rfl

theorem putAll_append (a b : List (Nat × Nat)) : ∀ db : Db, db.putAll (a ++ b) = (db.putAll a).putAll b := by
  induction a with
  | nil => intro db; rfl
  | cons p rest ih => intro db; obtain ⟨id, h⟩ := p; simp only [List.cons_append, Db.putAll]; exact ih _

/-- the single transaction: `writeBlocksSplit` with the whole batch as its one chunk is `writeBlocks` -/
theorem writeBlocksSplit_single (ids : List Nat) (start : Nat) (c : Ctx) :
    writeBlocksSplit ids [stamped ids start] c = writeBlocks ids start c := by
  unfold writeBlocksSplit writeBlocks
  have hf : (fun db : Db => { db.putAll (stamped ids start) with btip := ids.getLast?.orElse (fun _ => db.btip) })
      = (fun db : Db => db.addHeaders ids start) := by
    funext db
    simp only [Db.addHeaders, putAll_stamped]
  simp only [indexTxs, hf]

/-- with nothing injected, the transactions of any split write what one transaction writes -/
theorem indexTxs_none (tip : Option Nat) : ∀ (chunks : List (List (Nat × Nat))) (d : Durable) (st : Nat), chunks ≠ [] →
    ∃ n, indexTxs tip chunks ⟨d, st, .none⟩ = R.ok true
      ⟨{ d with db := { (d.db.putAll chunks.flatten) with btip := tip.orElse (fun _ => d.db.btip) } }, st + n, .none⟩ := by
  intro chunks
  induction chunks with
  | nil => intro d st h; exact absurd rfl h
  | cons ch rest ih =>
    intro d st _
    cases rest with
    | nil => exact ⟨1, by rw [List.flatten_cons, List.flatten_nil, List.append_nil]; rfl⟩
    | cons ch2 rest2 =>
      -- the first transaction commits `ch`; the rest run on the state it leaves
      obtain ⟨n, hn⟩ := ih { d with db := d.db.putAll ch } (st + 1) (List.cons_ne_nil _ _)
      refine ⟨1 + n, ?_⟩
      rw [List.flatten_cons, putAll_append, ← Nat.add_assoc]
      exact hn.trans (by rw [putAll_btip])

end Neutrino.Store
