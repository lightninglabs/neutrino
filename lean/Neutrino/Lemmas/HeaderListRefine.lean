/-
The ring refines the abstract live list: for every well-formed sequence of reset / push
operations, `Back`, `Prev` and `Ancestor` on the ring answer exactly as the list
`specRun` does - never a stale slot.  `find?_desc` is the one fact about plain lists this needs:
`specAncestor` searches by height, the ring computes a position.
-/
import Neutrino.Lemmas.HeaderListPush
namespace Neutrino.HL

/-- in a list whose `f`-values descend by one from `H`, the first element of `f`-value `h` is the
one at index `H - h` -/
theorem find?_desc {α : Type} (f : α → Nat) (h : Nat) : ∀ (l : List α) (H : Nat),
    (∀ j x, l[j]? = some x → f x + j = H) →
    l.find? (fun x => f x == h) = if h ≤ H then l[H - h]? else none
  | [], H, _ => by rw [List.find?_nil]; split <;> rfl
  | x :: xs, H, hd => by
    have hx : f x = H := hd 0 x rfl
    rw [List.find?_cons, hx]
    by_cases he : H = h
    · subst he
      rw [beq_self_eq_true, if_pos (Nat.le_refl H), Nat.sub_self]; rfl
    · simp only [beq_false_of_ne he]
      rw [find?_desc f h xs (H - 1) fun j y hy => Nat.eq_sub_of_add_eq (hd (j + 1) y hy)]
      by_cases hlt : h < H
      · rw [if_pos (Nat.le_sub_one_of_lt hlt), if_pos (Nat.le_of_lt hlt), ← Nat.sub_add_cancel (Nat.sub_pos_of_lt hlt),
          Nat.sub_right_comm, List.getElem?_cons_succ]
      · have hn : ¬ h ≤ H := fun c => hlt (Nat.lt_of_le_of_ne c (Ne.symm he))
        rw [if_neg (fun c => hn (Nat.le_trans c (Nat.sub_le H 1))), if_neg hn]

/-- what a slot index denotes to the caller: the node stored there -/
def nodeOf (r : Ring) (i : Nat) : ANode := ⟨(r.slots i).id, (r.slots i).height⟩

/-- the ring represents the list `l` (newest first) -/
structure Abs (r : Ring) (l : List ANode) (t top : Nat) : Prop where
  inv : RInv r t top
  len : l.length = r.len
  nodes : ∀ k, k < r.len → l[k]? = some ⟨(r.slots (slotAt r.cap t k)).id, top - k⟩

theorem abs_reset (r : Ring) (hc : 0 < r.cap) (h i : Nat) : Abs (reset r h i) [⟨i, h⟩] 0 h := by
  obtain ⟨_, hl, _, _, hs⟩ := reset_fields r h i
  have hl : (reset r h i).len = 1 := hl.trans (Nat.min_eq_left hc)
  refine ⟨reset_inv r hc h i, hl.symm, fun k hk => ?_⟩
  obtain rfl : k = 0 := Nat.lt_one_iff.mp (hl ▸ hk)
  rw [slotAt_zero, hs]; rfl

section
variable {r : Ring} {l : List ANode} {t top : Nat}

theorem push_id (inv : RInv r t top) (h i j : Nat) :
    ((push r h i).slots j).id = if j = next r.cap t then i else (r.slots j).id := by
  rw [push, build_slots (pushRaw_tail inv h i), pushRaw_slots inv]
  by_cases hj : j = next r.cap t
  · simp only [if_pos hj]
  · simp only [if_neg hj]

theorem abs_push (a : Abs r l t top) (i : Nat) :
    Abs (push r (top + 1) i) ((⟨i, top + 1⟩ :: l).take r.cap) (next r.cap t) (top + 1) := by
  refine ⟨push_preserves_RInv r t top i a.inv, ?_, fun k hk => ?_⟩
  · rw [push_len, List.length_take, List.length_cons, a.len, Nat.min_comm]
  · rw [push_len] at hk
    have hkc := (Nat.lt_min.mp hk).2
    rw [push_cap, List.getElem?_take, if_pos hkc, push_id a.inv]
    cases k with
    | zero => rw [slotAt_zero, if_pos rfl]; rfl
    | succ k =>
      rw [List.getElem?_cons_succ, slotAt_succ a.inv.tcap (Nat.lt_of_succ_lt hkc),
        if_neg (slotAt_ne_next a.inv.tcap hkc), a.nodes k (Nat.lt_of_succ_lt_succ (Nat.lt_min.mp hk).1),
        Nat.add_sub_add_right]
end

/-- well-formed operation sequences: the first operation is a reset, every push carries the next height -/
def WF : Option Nat → List Op → Prop
  | _, [] => True
  | _, .reset h _ :: os => WF (some h) os
  | none, .push _ _ :: _ => False
  | some top, .push h _ :: os => h = top + 1 ∧ WF (some h) os

theorem run_cap (r : Ring) (ops : List Op) : (run r ops).cap = r.cap := by
  induction ops generalizing r with
  | nil => rfl
  | cons o os ih =>
    rw [run, ih]
    cases o with
    | reset h i => exact (reset_fields r h i).1
    | push h i => exact push_cap r h i

theorem abs_run_from : ∀ (ops : List Op) {r : Ring} {l : List ANode} {t top : Nat},
    Abs r l t top → WF (some top) ops → ∃ t' top', Abs (run r ops) (specRun r.cap l ops) t' top'
  | [], _, _, t, top, a, _ => ⟨t, top, a⟩
  | .reset h i :: os, r, _, _, _, a, hwf => by
    have := abs_run_from os (abs_reset r a.inv.cap_pos h i) hwf
    rwa [(reset_fields r h i).1] at this
  | .push h i :: os, r, _, _, _, a, hwf => by
    obtain ⟨rfl, hwf⟩ := hwf
    have := abs_run_from os (abs_push a i) hwf
    rwa [push_cap] at this

theorem abs_run (cap : Nat) (hc : 0 < cap) : ∀ (ops : List Op) (r : Ring) (l : List ANode) (cur : Option Nat),
    r.cap = cap → WF cur ops → (∀ top, cur = some top → ∃ t, Abs r l t top) → ops ≠ [] ∨ cur ≠ none →
    ∃ t top, Abs (run r ops) (specRun cap l ops) t top := by
  intro ops r l cur hcap hwf habs hne
  subst hcap
  cases cur with
  | some top => obtain ⟨t, a⟩ := habs top rfl; exact abs_run_from ops a hwf
  | none =>
    -- nothing is known of the ring yet: the first operation is a reset
    cases ops with
    | nil => exact (hne.elim (· rfl) (· rfl)).elim
    | cons o os =>
      cases o with
      | push h i => exact hwf.elim
      | reset h i =>
        have := abs_run_from os (abs_reset r hc h i) hwf
        rwa [(reset_fields r h i).1] at this

section
variable {r : Ring} {l : List ANode} {t top : Nat}

theorem nthPrev_live (inv : RInv r t top) : ∀ (k j : Nat), j < r.len →
    nthPrev r k (some (slotAt r.cap t j)) = if j + k < r.len then some (slotAt r.cap t (j + k)) else none
  | 0, j, hj => (if_pos hj).symm
  | n + 1, j, hj => by
    rw [nthPrev, inv.prevs j hj]
    by_cases h1 : j + 1 < r.len
    · rw [if_pos h1, nthPrev_live inv n (j + 1) h1, Nat.add_right_comm j 1 n]; rfl
    · have h2 : ¬ j + (n + 1) < r.len :=
        fun c => h1 (Nat.lt_of_le_of_lt (Nat.succ_le_succ (Nat.le_add_right j n)) c)
      rw [if_neg h1, if_neg h2]
      cases n <;> rfl

theorem abs_getElem? (a : Abs r l t top) (j : Nat) :
    l[j]? = if j < r.len then some (nodeOf r (slotAt r.cap t j)) else none := by
  by_cases hj : j < r.len
  · rw [if_pos hj, a.nodes j hj, nodeOf, a.inv.hts j hj]
  · rw [if_neg hj, List.getElem?_eq_none (a.len ▸ Nat.le_of_not_lt hj)]

theorem abs_specAncestor (a : Abs r l t top) {k : Nat} (hk : k < r.len) (h : Nat) :
    specAncestor l k h = if h ≤ top - k then l[top - h]? else none := by
  have hd : ∀ j x, (l.drop k)[j]? = some x → x.height + j = top - k := by
    intro j x hx
    rw [List.getElem?_drop, abs_getElem? a] at hx
    by_cases hj : k + j < r.len
    · rw [if_pos hj] at hx; cases hx
      show (r.slots (slotAt r.cap t (k + j))).height + j = top - k
      rw [a.inv.hts _ hj, Nat.sub_add_eq, Nat.sub_add_cancel (Nat.le_sub_of_add_le' (a.inv.le_top hj))]
    · rw [if_neg hj] at hx; cases hx
  rw [specAncestor, find?_desc ANode.height h _ _ hd, List.getElem?_drop]
  by_cases hh : h ≤ top - k
  · have hkh : k ≤ top - h := Nat.le_sub_of_add_le' (Nat.add_le_of_le_sub (a.inv.le_top hk) hh)
    rw [if_pos hh, if_pos hh, Nat.sub_right_comm, Nat.add_sub_cancel' hkh]
  · rw [if_neg hh, if_neg hh]

end

/-- **Queries**: in a ring representing `l`, `Back`, `k`×`Prev` and `Ancestor(h)` from there answer as the list does. -/
theorem abs_queries {r : Ring} {l : List ANode} {t top : Nat} (a : Abs r l t top) (k h : Nat) :
    (r.tail.map (nodeOf r)) = l.head? ∧
    ((nthPrev r k r.tail).map (nodeOf r)) = l[k]? ∧
    ((ancestor r (nthPrev r k r.tail) h).map (nodeOf r)) = specAncestor l k h := by
  have inv := a.inv
  have hnth : nthPrev r k r.tail = if k < r.len then some (slotAt r.cap t k) else none := by
    have := nthPrev_live inv k 0 inv.lenpos
    rwa [slotAt_zero, Nat.zero_add, ← inv.tail] at this
  refine ⟨?_, ?_, ?_⟩
  · rw [inv.tail, List.head?_eq_getElem?, abs_getElem? a, if_pos inv.lenpos, slotAt_zero]; rfl
  · rw [hnth, abs_getElem? a, apply_ite (Option.map (nodeOf r))]; rfl
  · rw [hnth]
    by_cases hk : k < r.len
    · rw [if_pos hk, ancestor_correct r t top inv k h hk, abs_specAncestor a hk]
      by_cases hh : h ≤ top - k
      · have hw : top - h < r.len ↔ top + 1 - r.len ≤ h :=
          (Nat.sub_lt_iff_lt_add (Nat.le_trans hh (Nat.sub_le top k))).trans Nat.sub_le_iff_le_add'.symm
        rw [if_pos hh, abs_getElem? a, apply_ite (Option.map (nodeOf r))]
        simp only [hh, true_and, hw]; rfl
      · rw [if_neg hh, if_neg (fun c => hh c.1)]; rfl
    · rw [if_neg hk, specAncestor, List.drop_of_length_le (a.len ▸ Nat.le_of_not_lt hk)]; rfl

end Neutrino.HL
