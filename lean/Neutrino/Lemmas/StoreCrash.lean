import Neutrino.Lemmas.StoreReopen
/-!
The store calls step by step with no I/O fault armed: every durable step is a
point where an armed crash may kill the process, and whatever prefix of the
steps has happened by then leaves the files ahead of an index that represents
the log before the call or the log after it.
-/
namespace Neutrino.Store

def Inj.firesAt : Inj → Nat → Bool
  | .none, _ => false
  | .fault _ fs _, s => fs == s
  | .crash cs _, s => cs == s

@[simp] theorem firesAt_none (s : Nat) : Inj.firesAt .none s = false := rfl

theorem fileWrite_quiet (w : Which) (ids : List Nat) (c : Ctx) (hq : c.inj.firesAt c.step = false) :
    fileWrite w ids c = .ok none { c with step := c.step + 1, d := c.d.setFile w ((c.d.file w).appendAll (width w) ids) } := by
  unfold fileWrite
  cases hi : c.inj with
  | none => rfl
  | crash cs t => exact if_neg (by simpa [Inj.firesAt, hi] using hq)
  | fault k fs a =>
    have : fs ≠ c.step := by simpa [Inj.firesAt, hi] using hq
    cases k <;> first | rfl | exact if_neg this

theorem fileTruncate_quiet (w : Which) (target : Option FileSt) (c : Ctx) (hq : c.inj.firesAt c.step = false) :
    fileTruncate w target c =
      match target with
      | some f => .ok true { c with step := c.step + 1, d := c.d.setFile w f }
      | none => .ok false { c with step := c.step + 1 } := by
  unfold fileTruncate
  cases hi : c.inj with
  | none => rfl
  | crash cs t => exact if_neg (by simpa [Inj.firesAt, hi] using hq)
  | fault k fs a =>
    have : fs ≠ c.step := by simpa [Inj.firesAt, hi] using hq
    cases k <;> first | rfl | exact if_neg this

theorem dbUpdate_quiet (g : Db → Db) (c : Ctx) (hq : c.inj.firesAt c.step = false) :
    dbUpdate g c = .ok true { c with step := c.step + 1, d := { c.d with db := g c.d.db } } := by
  unfold dbUpdate
  cases hi : c.inj with
  | none => rfl
  | crash cs t => exact if_neg (by simpa [Inj.firesAt, hi] using hq)
  | fault k fs a =>
    have : fs ≠ c.step := by simpa [Inj.firesAt, hi] using hq
    cases k <;> first | rfl | exact if_neg this

/-- no I/O fault is armed (a crash may be) -/
def NoFault : Inj → Prop
  | .fault _ _ _ => False
  | _ => True

theorem quiet_or_crash {c : Ctx} (hnf : NoFault c.inj) :
    c.inj.firesAt c.step = false ∨ ∃ t, c.inj = .crash c.step t := by
  cases hi : c.inj with
  | none => exact Or.inl rfl
  | fault k fs a => rw [hi] at hnf; exact hnf.elim
  | crash cs t =>
    by_cases h : cs = c.step
    · exact Or.inr ⟨t, by rw [h]⟩
    · exact Or.inl (beq_false_of_ne h)

theorem fileWrite_crash (w : Which) (ids : List Nat) (c : Ctx) (t : Nat) (h : c.inj = .crash c.step t) :
    fileWrite w ids c = .crashed (c.d.setFile w ((c.d.file w).appendBytes (width w) ids
      (min t (ids.length * width w)))) := by
  unfold fileWrite; simp [h]

theorem dbUpdate_crash (g : Db → Db) (c : Ctx) (t : Nat) (h : c.inj = .crash c.step t) :
    dbUpdate g c = .crashed c.d := by
  unfold dbUpdate; simp [h]

theorem fileTruncate_crash (w : Which) (tg : Option FileSt) (c : Ctx) (t : Nat) (h : c.inj = .crash c.step t) :
    fileTruncate w tg c = .crashed c.d := by
  unfold fileTruncate; simp [h]

/-- What a call leaves when no I/O fault is armed: killed — only an armed crash
does that — in a durable state satisfying `Cr`; or finished, the injection still
armed for later steps, with a result and a context satisfying `Done`. -/
def Outcome {α : Type} (inj : Inj) (Cr : Durable → Prop) (Done : α → Ctx → Prop) : R α → Prop
  | .crashed d' => (∃ k t, inj = Inj.crash k t) ∧ Cr d'
  | .ok a c' => c'.inj = inj ∧ Done a c'

theorem Outcome.bind {α β : Type} {inj : Inj} {Cr : Durable → Prop} {D1 : α → Ctx → Prop} {D2 : β → Ctx → Prop}
    {r : R α} {f : α → Ctx → R β} (h1 : Outcome inj Cr D1 r)
    (h2 : ∀ a c', c'.inj = inj → D1 a c' → Outcome inj Cr D2 (f a c')) : Outcome inj Cr D2 (r.bind f) := by
  cases r with
  | crashed d' => exact h1
  | ok a c' => exact h2 a c' h1.1 h1.2

theorem Outcome.mono {α : Type} {inj : Inj} {Cr Cr' : Durable → Prop} {D D' : α → Ctx → Prop} {r : R α}
    (h : Outcome inj Cr D r) (hc : ∀ d', Cr d' → Cr' d') (hd : ∀ a c', D a c' → D' a c') : Outcome inj Cr' D' r := by
  cases r with
  | crashed d' => exact ⟨h.1, hc d' h.2⟩
  | ok a c' => exact ⟨h.1, hd a c' h.2⟩

theorem dbUpdate_outcome (g : Db → Db) (c : Ctx) {inj : Inj} (hi : c.inj = inj) (hnf : NoFault inj)
    {Cr : Durable → Prop} (hcr : Cr c.d) :
    Outcome inj Cr (fun ok c' => ok = true ∧ c'.d = { c.d with db := g c.d.db }) (dbUpdate g c) := by
  subst hi
  rcases quiet_or_crash hnf with hq | ⟨t, ht⟩
  · rw [dbUpdate_quiet _ _ hq]; exact ⟨rfl, rfl, rfl⟩
  · rw [dbUpdate_crash _ _ t ht]; exact ⟨⟨_, _, ht⟩, hcr⟩

theorem fileTruncate_outcome (w : Which) (f : FileSt) (c : Ctx) {inj : Inj} (hi : c.inj = inj) (hnf : NoFault inj)
    {Cr : Durable → Prop} (hcr : Cr c.d) :
    Outcome inj Cr (fun ok c' => ok = true ∧ c'.d = c.d.setFile w f) (fileTruncate w (some f) c) := by
  subst hi
  rcases quiet_or_crash hnf with hq | ⟨t, ht⟩
  · rw [fileTruncate_quiet _ _ _ hq]; exact ⟨rfl, rfl, rfl⟩
  · rw [fileTruncate_crash _ _ _ t ht]; exact ⟨⟨_, _, ht⟩, hcr⟩

theorem appendRaw_outcome (w : Which) (ids : List Nat) (c : Ctx) {inj : Inj} (hi : c.inj = inj) (hnf : NoFault inj)
    {Cr : Durable → Prop} (hcr : ∀ t, Cr (c.d.setFile w ((c.d.file w).appendBytes (width w) ids t))) :
    Outcome inj Cr (fun ok c' => ok = true ∧ c'.d = c.d.setFile w ((c.d.file w).appendAll (width w) ids))
      (appendRaw w ids c) := by
  subst hi
  unfold appendRaw
  rcases quiet_or_crash hnf with hq | ⟨t, ht⟩
  · rw [fileWrite_quiet _ _ _ hq]; exact ⟨rfl, rfl, rfl⟩
  · rw [fileWrite_crash _ _ _ t ht]; exact ⟨⟨_, _, ht⟩, hcr _⟩

/-- `truncateHeaders` takes a durable step only if there is something to cut -/
theorem truncateHeaders_outcome (w : Which) {n : Nat} (c : Ctx) {inj : Inj} (hi : c.inj = inj) (hnf : NoFault inj)
    {f' : FileSt} (h : (c.d.file w).truncateBy (width w) n = some f') {Cr : Durable → Prop} (hcr : Cr c.d) :
    Outcome inj Cr (fun ok c' => ok = true ∧ c'.d = c.d.setFile w f') (truncateHeaders w n c) := by
  unfold truncateHeaders
  by_cases hn : n = 0
  · rw [if_pos hn]
    rw [hn, FileSt.truncateBy_zero] at h
    cases h
    exact ⟨hi, rfl, (setFile_file c.d w).symm⟩
  · rw [if_neg hn, h]
    exact fileTruncate_outcome w f' c hi hnf hcr

/-- The shape both `WriteHeaders` share: append to the file, commit the index,
cut the file back if the commit fails. -/
def appendThenIndex (w : Which) (ids : List Nat) (g : Db → Db) (c : Ctx) : R Out :=
  (appendRaw w ids c).bind fun ok c =>
    if !ok then .ok .err c
    else (dbUpdate g c).bind fun ok c =>
      if ok then .ok .ok c
      else (truncateHeaders w ids.length c).bind fun _ c => .ok .err c

theorem writeBlocks_eq {ids : List Nat} (hne : ids ≠ []) (s : Nat) (c : Ctx) :
    writeBlocks ids s c = appendThenIndex .B ids (fun db => db.addHeaders ids s) c := by
  simp only [writeBlocks, appendThenIndex, List.isEmpty_iff, hne, if_false]

theorem writeFilters_eq {fids : List Nat} (hne : fids ≠ []) (last : Nat) (c : Ctx) :
    writeFilters fids last c = appendThenIndex .F fids (fun db => { db with ftip := some last }) c := by
  simp only [writeFilters, appendThenIndex, List.isEmpty_iff, hne, if_false]

/-- the crash points of an append: inside the file write, at any torn length, and before the index commit -/
theorem appendThenIndex_outcome (w : Which) (ids : List Nat) (g : Db → Db) (c : Ctx) {inj : Inj} (hi : c.inj = inj)
    (hnf : NoFault inj) {Cr : Durable → Prop}
    (hcr : ∀ t, Cr (c.d.setFile w ((c.d.file w).appendBytes (width w) ids t))) :
    Outcome inj Cr
      (fun o c' => o = .ok ∧ c'.d = { c.d.setFile w ((c.d.file w).appendAll (width w) ids) with db := g c.d.db })
      (appendThenIndex w ids g c) := by
  unfold appendThenIndex
  refine (appendRaw_outcome w ids c hi hnf hcr).bind fun ok c1 hi1 ⟨hok, hd1⟩ => ?_
  subst hok
  refine (dbUpdate_outcome g c1 hi1 hnf (hd1 ▸ hcr (ids.length * width w))).bind fun ok c2 hi2 ⟨hok, hd2⟩ => ?_
  subst hok
  exact ⟨hi2, rfl, by rw [hd2, hd1, setFile_db]⟩

/-- The shape both rollbacks share once their reads are done: commit the index, then cut the file. -/
def indexThenCut (w : Which) (n : Nat) (g : Db → Db) (out : Out) (c : Ctx) : R Out :=
  (dbUpdate g c).bind fun ok c =>
    if !ok then .ok .err c
    else (truncateHeaders w n c).bind fun ok c => if ok then .ok out c else .ok .err c

/-- the crash points of a rollback: before the index commit, and between it and the cut -/
theorem indexThenCut_outcome (w : Which) {n : Nat} (g : Db → Db) (out : Out) (c : Ctx) {inj : Inj} (hi : c.inj = inj)
    (hnf : NoFault inj) {f' : FileSt} (hcut : (c.d.file w).truncateBy (width w) n = some f')
    {Cr : Durable → Prop} (h0 : Cr c.d) (h1 : Cr { c.d with db := g c.d.db }) :
    Outcome inj Cr (fun o c' => o = out ∧ c'.d = ({ c.d with db := g c.d.db } : Durable).setFile w f')
      (indexThenCut w n g out c) := by
  unfold indexThenCut
  refine (dbUpdate_outcome g c hi hnf h0).bind fun ok c1 hi1 ⟨hok, hd1⟩ => ?_
  subst hok
  have hcut1 : (c1.d.file w).truncateBy (width w) n = some f' := by rw [hd1, ← hcut]; cases w <;> rfl
  simp only [Bool.not_true, Bool.false_eq_true, if_false]
  refine (truncateHeaders_outcome w c1 hi1 hnf hcut1 (hd1 ▸ h1)).bind fun ok c2 hi2 ⟨hok, hd2⟩ => ?_
  subst hok
  exact ⟨hi2, rfl, hd1 ▸ hd2⟩

/-- the files ahead of an index that represents one of the logs in `S`: what a crash leaves -/
def AheadIn (S : Log → Prop) (d : Durable) : Prop := ∃ lx xb xf, Ahead d lx xb xf ∧ S lx

theorem AheadIn.mono {S S' : Log → Prop} {d : Durable} (h : AheadIn S d) (hs : ∀ lx, S lx → S' lx) : AheadIn S' d :=
  let ⟨lx, xb, xf, hA, hS⟩ := h
  ⟨lx, xb, xf, hA, hs lx hS⟩

/-- a block append torn at any byte: the whole entries that made it are ahead of the index -/
theorem Rep.tornB {d : Durable} {l : Log} (h : Rep d l) {ids : List Nat} (hnd : ids.Nodup)
    (hfresh : ∀ x ∈ ids, x ∉ l.blocks) {S : Log → Prop} (hS : S l) (t : Nat) :
    AheadIn S (d.setFile .B ((d.file .B).appendBytes (width .B) ids t)) := by
  obtain ⟨k, j, hk⟩ := appendBytes_clean d.bf ids (width .B) t (by rw [h.bents])
  refine ⟨l, ids.take k, [], Indexed.ahead (d := d.setFile .B _) h.indexed (hk.trans (by rw [h.bents]))
    (h.fents.trans (by rw [List.append_nil])) ?_, hS⟩
  rw [List.nodup_append]
  exact ⟨h.nodup, (List.take_sublist _ _).nodup hnd, fun a ha b hb heq => hfresh b (List.mem_of_mem_take hb) (heq ▸ ha)⟩

theorem Rep.tornF {d : Durable} {l : Log} (h : Rep d l) (fids : List Nat) {S : Log → Prop} (hS : S l) (t : Nat) :
    AheadIn S (d.setFile .F ((d.file .F).appendBytes (width .F) fids t)) := by
  obtain ⟨k, j, hk⟩ := appendBytes_clean d.ff fids (width .F) t (by rw [h.fents])
  exact ⟨l, [], fids.take k, Indexed.ahead (d := d.setFile .F _) h.indexed (h.bents.trans (by rw [List.append_nil]))
    (hk.trans (by rw [h.fents])) (by rw [List.append_nil]; exact h.nodup), hS⟩

theorem Rep.appendAllB {d : Durable} {l : Log} (h : Rep d l) (ids : List Nat) :
    (d.file .B).appendAll (width .B) ids = { ents := l.blocks ++ ids } := by
  rw [Durable.file, h.bents]; exact appendAll_clean _ _ _ (width_pos _)

theorem Rep.appendAllF {d : Durable} {l : Log} (h : Rep d l) (fids : List Nat) :
    (d.file .F).appendAll (width .F) fids = { ents := l.filters ++ fids } := by
  rw [Durable.file, h.fents]; exact appendAll_clean _ _ _ (width_pos _)

theorem Rep.appendB {d : Durable} {l : Log} (h : Rep d l) {ids : List Nat} (hnd : ids.Nodup)
    (hfresh : ∀ x ∈ ids, x ∉ l.blocks) (hne : ids ≠ []) :
    Rep { d.setFile .B ((d.file .B).appendAll (width .B) ids) with db := d.db.addHeaders ids l.blocks.length }
      { l with blocks := l.blocks ++ ids } := by
  rw [h.appendAllB]; exact (h.indexed.addHeaders hnd hfresh hne).rep rfl h.fents

/-- a completed filter-header append, the filter tip moved to the block at the new height -/
theorem Rep.appendF {d : Durable} {l : Log} (h : Rep d l) {fids : List Nat} {last : Nat} (hne : fids ≠ [])
    (hlast : l.blocks[l.filters.length - 1 + fids.length]? = some last) :
    Rep { d.setFile .F ((d.file .F).appendAll (width .F) fids) with db := { d.db with ftip := some last } }
      { l with filters := l.filters ++ fids } := by
  rw [h.appendAllF]
  refine (h.indexed.setFtip (fs := l.filters ++ fids) (by simp [hne]) ?_).rep h.bents rfl
  rw [← hlast, List.length_append, ← len_pred_succ h.neF, Nat.add_sub_cancel, Nat.add_right_comm, Nat.add_sub_cancel]

theorem writeBlocks_outcome (c : Ctx) (l : Log) (ids : List Nat) (hrep : Rep c.d l)
    (hnf : NoFault c.inj) (hnd : ids.Nodup) (hfresh : ∀ x ∈ ids, x ∉ l.blocks) :
    Outcome c.inj (AheadIn fun lx => lx = l ∨ lx = { l with blocks := l.blocks ++ ids })
      (fun o c' => o = .ok ∧ Rep c'.d { l with blocks := l.blocks ++ ids })
      (writeBlocks ids l.blocks.length c) := by
  -- until the index commit, whatever has reached the file is ahead of the index of `l`
  have torn := hrep.tornB hnd hfresh (S := fun lx => lx = l ∨ lx = { l with blocks := l.blocks ++ ids }) (Or.inl rfl)
  by_cases he : ids = []
  · subst he
    rw [writeBlocks]
    refine (appendRaw_outcome .B [] c rfl hnf torn).bind fun ok c1 hi1 ⟨hok, hd1⟩ => ?_
    subst hok
    refine ⟨hi1, rfl, ?_⟩
    rw [hd1, hrep.appendAllB, List.append_nil, ← hrep.bents]; exact hrep
  · rw [writeBlocks_eq he]
    exact (appendThenIndex_outcome .B ids _ c rfl hnf torn).mono (fun _ h => h)
      fun o c' ⟨ho, hd⟩ => ⟨ho, hd ▸ hrep.appendB hnd hfresh he⟩

theorem writeFilters_outcome (c : Ctx) (l : Log) (fids : List Nat) (last : Nat) (hrep : Rep c.d l)
    (hnf : NoFault c.inj)
    (hlast : fids ≠ [] → l.blocks[l.filters.length - 1 + fids.length]? = some last) :
    Outcome c.inj (AheadIn fun lx => lx = l ∨ lx = { l with filters := l.filters ++ fids })
      (fun o c' => o = .ok ∧ Rep c'.d { l with filters := l.filters ++ fids }) (writeFilters fids last c) := by
  have torn := hrep.tornF fids (S := fun lx => lx = l ∨ lx = { l with filters := l.filters ++ fids }) (Or.inl rfl)
  by_cases he : fids = []
  · subst he
    exact ⟨rfl, rfl, by rw [List.append_nil]; exact hrep⟩
  · rw [writeFilters_eq he]
    exact (appendThenIndex_outcome .F fids _ c rfl hnf torn).mono (fun _ h => h)
      fun o c' ⟨ho, hd⟩ => ⟨ho, hd ▸ hrep.appendF he (hlast he)⟩

/-- the rollback's read of the entries it is about to drop, with the new tip in front -/
theorem readRange_tail {xs : List Nat} {n prev : Nat} (hn : n < xs.length) (hprev : xs[xs.length - n - 1]? = some prev) :
    readRange { ents := xs } (xs.length - 1 - n) (xs.length - 1) = some (prev :: xs.drop (xs.length - n)) := by
  have hlt := (List.getElem?_eq_some_iff.mp hprev).1
  rw [readRange_clean (Nat.sub_lt (Nat.zero_lt_of_lt hn) Nat.one_pos) (Nat.sub_le _ _), Option.some.injEq]
  rw [Nat.sub_sub_self (Nat.le_sub_one_of_lt hn), Nat.sub_right_comm, List.drop_eq_getElem_cons hlt,
    (List.getElem?_eq_some_iff.mp hprev).2, Nat.sub_add_cancel (Nat.sub_pos_of_lt hn), List.take_succ_cons,
    List.take_of_length_le (by rw [List.length_drop, Nat.sub_sub_self (Nat.le_of_lt hn)]; exact Nat.le_refl _)]

theorem rollbackBlocks_outcome (c : Ctx) (l : Log) (n : Nat) (prev : Nat) (hrep : Rep c.d l)
    (hnf : NoFault c.inj) (hn0 : n ≠ 0) (hn : n < l.blocks.length)
    (hf : l.filters.length ≤ l.blocks.length - n)
    (hprev : l.blocks[l.blocks.length - n - 1]? = some prev) :
    Outcome c.inj (AheadIn fun lx => lx = l ∨ lx = { l with blocks := l.blocks.take (l.blocks.length - n) })
      (fun o c' => o = .okTip (l.blocks.length - 1 - n) prev ∧
        Rep c'.d { l with blocks := l.blocks.take (l.blocks.length - n) }) (rollbackBlocks n c) := by
  obtain ⟨tip, htip, hbt⟩ := rep_btipHeight hrep
  have hI := hrep.indexed.delAll hf hprev
  have hrr := readRange_tail hn hprev
  rw [← hrep.bents] at hrr
  simp only [rollbackBlocks, hn0, if_false, hbt, Nat.not_lt.mpr (Nat.le_sub_one_of_lt hn), hrr]
  have hcut : (c.d.file .B).truncateBy (width .B) n = some { ents := l.blocks.take (l.blocks.length - n) } := by
    rw [Durable.file, hrep.bents, truncateBy_le _ _ (Nat.le_of_lt hn)]
  refine (indexThenCut_outcome .B _ _ c rfl hnf hcut ⟨l, [], [], hrep.ahead, Or.inl rfl⟩ ?_).mono (fun _ h => h)
    fun o c' ⟨ho, hd⟩ => ⟨ho, hd ▸ hI.rep rfl hrep.fents⟩
  -- index committed, file not yet cut: the dropped entries are ahead of the new index
  exact ⟨_, l.blocks.drop (l.blocks.length - n), [], hI.ahead (d := { c.d with db := _ })
    (by rw [hrep.bents, List.take_append_drop]) (by rw [hrep.fents, List.append_nil])
    (by rw [List.take_append_drop]; exact hrep.nodup), Or.inr rfl⟩

theorem rollbackFilter_outcome (c : Ctx) (l : Log) (nt fh : Nat) (hrep : Rep c.d l)
    (hnf : NoFault c.inj) (hlen : 1 < l.filters.length)
    (hnt : l.blocks[l.filters.length - 2]? = some nt)
    (hfh : l.filters[l.filters.length - 2]? = some fh) :
    Outcome c.inj (AheadIn fun lx => lx = l ∨ lx = { l with filters := l.filters.take (l.filters.length - 1) })
      (fun o c' => o = .okTip (l.filters.length - 2) fh ∧
        Rep c'.d { l with filters := l.filters.take (l.filters.length - 1) }) (rollbackFilter nt c) := by
  obtain ⟨b, hft⟩ := rep_ftipHeight hrep
  have hl : (l.filters.take (l.filters.length - 1)).length = l.filters.length - 1 :=
    List.length_take_of_le (Nat.sub_le _ _)
  have hI : Indexed { c.d.db with ftip := some nt } { l with filters := l.filters.take (l.filters.length - 1) } :=
    hrep.indexed.setFtip (fun hc => by rw [hc] at hl; exact absurd hl.symm (Nat.sub_ne_zero_of_lt hlen))
      (by rw [hl]; exact hnt)
  have hget : c.d.ff.get? (l.filters.length - 1 - 1) = some fh := by rw [hrep.fents]; exact hfh
  simp only [rollbackFilter, hft, Nat.sub_ne_zero_of_lt hlen, if_false, hget]
  have hcut : (c.d.file .F).truncateBy (width .F) 1 = some { ents := l.filters.take (l.filters.length - 1) } := by
    rw [Durable.file, hrep.fents, truncateBy_le _ _ (Nat.le_of_lt hlen)]
  refine (indexThenCut_outcome .F _ _ c rfl hnf hcut ⟨l, [], [], hrep.ahead, Or.inl rfl⟩ ?_).mono
    (fun _ h => h) fun o c' ⟨ho, hd⟩ => ⟨ho, hd ▸ hI.rep hrep.bents rfl⟩
  exact ⟨_, [], l.filters.drop (l.filters.length - 1), hI.ahead (d := { c.d with db := _ })
    (by rw [hrep.bents, List.append_nil]) (by rw [hrep.fents, List.take_append_drop])
    (by rw [List.append_nil]; exact hrep.nodup), Or.inr rfl⟩

end Neutrino.Store
