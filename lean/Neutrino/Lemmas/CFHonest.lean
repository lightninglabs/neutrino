/-
Lemmas for `C03_honest_wins_partial`: the detection loop of
`getUncheckpointedCFHeaders` removes and bans exactly the peers with a false
filter hash, never an honest one, provided the round is not of the
`shapeEarlyReturn` (F12) shape.
-/
import Neutrino.Lemmas.CFHeaders
namespace Neutrino.CFHeaders

theorem mem_filtersAt {s : St} {net : Net} {h : Nat} {x : Peer × FHash} :
    x ∈ filtersAt s net h ↔ x.1 ∈ net.peers.filter (live s) ∧ net.served x.1 h = some x.2 :=
  mem_filterMap_pair (fun p => net.served p h) _ x

theorem lookupF_filtersAt {s : St} {net : Net} (h : Nat) {p : Peer}
    (hp : p ∈ net.peers.filter (live s)) : lookupF (filtersAt s net h) p = net.served p h := by
  unfold lookupF
  cases hf : (filtersAt s net h).find? (fun x => x.1 == p) with
  | none =>
    cases hs : net.served p h with
    | none => rfl
    | some f =>
      have := List.find?_eq_none.mp hf (p, f) (mem_filtersAt.mpr ⟨hp, hs⟩)
      exact absurd (beq_self_eq_true p) this
  | some x =>
    have hx : x.1 = p := beq_iff_eq.mp (List.find?_some (p := fun x : Peer × FHash => x.1 == p) hf)
    exact (hx ▸ (mem_filtersAt.mp (List.mem_of_find?_eq_some hf)).2).symm

theorem mismatchGo_false (i : Nat) (L : List (Peer × Msg)) (acc : Option FHash)
    (h : mismatchGo i acc L = false) :
    ∃ v, (∀ a, acc = some a → a = v) ∧ ∀ pm ∈ L, ∀ f, pm.2.hashes[i]? = some f → f = v := by
  fun_induction mismatchGo i acc L with
  | case1 acc => exact ⟨acc.getD 0, fun a ha => ha ▸ rfl, nofun⟩
  | case2 acc pm r hn ih =>
    obtain ⟨v, h1, h2⟩ := ih h
    exact ⟨v, h1, fun x hx f hf => (List.mem_cons.mp hx).elim (fun e => by rw [e, hn] at hf; cases hf) (h2 x · f hf)⟩
  | case3 pm r f hf ih =>
    obtain ⟨v, h1, h2⟩ := ih h
    exact ⟨v, nofun, fun x hx g hg => (List.mem_cons.mp hx).elim
      (fun e => by rw [e, hf] at hg; cases hg; exact h1 f rfl) (h2 x · g hg)⟩
  | case4 pm r f hf a hne => cases h
  | case5 pm r f hf a he ih =>
    obtain ⟨v, h1, h2⟩ := ih h
    exact ⟨v, h1, fun x hx g hg => (List.mem_cons.mp hx).elim
      (fun e => by rw [e, hf] at hg; cases hg; exact Decidable.not_not.mp he ▸ h1 a rfl) (h2 x · g hg)⟩

theorem mismatchGo_of_all_eq (i : Nat) (v : FHash) (L : List (Peer × Msg)) (acc : Option FHash)
    (hacc : ∀ a, acc = some a → a = v) (hall : ∀ pm ∈ L, ∀ f, pm.2.hashes[i]? = some f → f = v) :
    mismatchGo i acc L = false := by
  fun_induction mismatchGo i acc L with
  | case1 => rfl
  | case2 acc pm r hn ih => exact ih hacc fun x hx => hall x (List.mem_cons_of_mem _ hx)
  | case3 pm r f hf ih =>
    exact ih (fun a ha => by cases ha; exact hall pm List.mem_cons_self f hf)
      fun x hx => hall x (List.mem_cons_of_mem _ hx)
  | case4 pm r f hf a hne =>
    exact absurd ((hacc a rfl).trans (hall pm List.mem_cons_self f hf).symm) hne
  | case5 pm r f hf a he ih => exact ih hacc fun x hx => hall x (List.mem_cons_of_mem _ hx)

/-- `checkForCFHeaderMismatch` reports none iff all values advertised at `i` are one value -/
theorem mismatch_eq_false_iff (hs : List (Peer × Msg)) (i : Nat) :
    mismatch hs i = false ↔ ∃ v, ∀ pm ∈ hs, ∀ f, pm.2.hashes[i]? = some f → f = v :=
  ⟨fun h => let ⟨v, _, h2⟩ := mismatchGo_false i hs none h; ⟨v, h2⟩,
   fun ⟨v, h⟩ => mismatchGo_of_all_eq i v hs none nofun h⟩

/-- `resolveFilterMismatchFromBlock` returns the peers whose filter the block rejects as soon as there is one -/
theorem resolveFromBlock_bad {verify : FHash → Nat → VRes} {h : Nat} {fl : List (Peer × FHash)} (t : Nat)
    {x : Peer × FHash} (hx : x ∈ fl) (hb : verify x.2 h = .bad) :
    resolveFromBlock verify h fl t = .ok ((fl.filter (fun x => verify x.2 h == .bad)).map (·.1)) := by
  have hne : ((fl.filter (fun x => verify x.2 h == .bad)).map (·.1)).isEmpty = false :=
    List.isEmpty_eq_false_iff.mpr (List.ne_nil_of_mem
      (List.mem_map_of_mem (List.mem_filter.mpr ⟨hx, beq_iff_eq.mpr hb⟩)))
  unfold resolveFromBlock
  dsimp only
  rw [hne]
  rfl

theorem live_ban {s : St} {ps : List Peer} (reason : Nat) {p : Peer} (hl : live s p = true) (hp : p ∉ ps) :
    live (ban s ps reason) p = true := by
  unfold live ban at *
  simp only [Bool.not_eq_true', Bool.and_eq_false_imp] at hl ⊢
  intro hd
  rw [List.any_append, hl hd, Bool.false_or, List.any_eq_false]
  intro x hx
  obtain ⟨q, hq, rfl⟩ := List.mem_map.mp hx
  exact fun h => hp (beq_iff_eq.mp h ▸ hq)

/-- the hypotheses of the honest-wins clause for the round `r`, played against `net` -/
structure HW (r : Round) (net : Net) : Prop where
  sv   : r.served = net.served
  vf   : r.verify = net.verify
  gb   : r.getBlock = net.getBlock
  hon  : ∃ p0 ∈ r.peers, r.honest p0 = true
  prov : ∀ p ∈ r.peers, r.liar p = true → r.provable p = true
  tv   : ∀ i, i < r.n → r.verify (r.truth (r.start + i)) (r.start + i) ≠ .bad
  fe   : ∀ i, i < r.n → r.getBlock (r.start + i) = true
  ns   : r.shapeEarlyReturn = false

theorem HW.of_bool {s : St} {net : Net} {truth : Nat → FHash} (h1 : (roundOf s net truth).hyp = true)
    (h2 : (roundOf s net truth).shapeEarlyReturn = false) : HW (roundOf s net truth) net := by
  unfold Round.hyp Round.truthVerifies Round.fetchable at h1
  simp only [Bool.and_eq_true, List.any_eq_true, List.all_eq_true, Bool.or_eq_true,
    Bool.not_eq_eq_eq_not, Bool.not_true, List.mem_range, bne_iff_ne, ne_eq] at h1
  obtain ⟨⟨⟨hon, hprov⟩, htv⟩, hfe⟩ := h1
  exact ⟨rfl, rfl, rfl, hon, fun p hp hl => (hprov p hp).resolve_left (by rw [hl]; decide), htv, hfe, h2⟩

/-- an entry of the header map: a connected peer, its accepted message, starting from our tip -/
def Good (r : Round) (pm : Peer × Msg) : Prop :=
  pm.1 ∈ r.peers ∧ r.msgOf pm.1 = some pm.2 ∧ pm.2.prev = r.tip

theorem Good.hashAt {r : Round} {pm : Peer × Msg} (g : Good r pm) (i : Nat) :
    r.hashAt pm.1 i = pm.2.hashes[i]? := by
  unfold Round.hashAt; rw [g.2.1]

theorem Good.responding {r : Round} {pm : Peer × Msg} (g : Good r pm) : r.responding pm.1 = true := by
  unfold Round.responding; rw [g.2.1]; exact beq_iff_eq.mpr g.2.2

theorem Good.wrongPrev {r : Round} {pm : Peer × Msg} (g : Good r pm) : r.wrongPrev pm.1 = false := by
  unfold Round.wrongPrev; rw [g.2.1]; exact bne_eq_false_iff_eq.mpr g.2.2

theorem Good.some {r : Round} {pm : Peer × Msg} (g : Good r pm) {i : Nat} (hi : i < r.n) :
    pm.2.hashes[i]? = some pm.2.hashes[i]! := by
  have hl : pm.2.hashes.length = r.n := (accept_some g.2.1).2
  rw [getElem!_pos pm.2.hashes i (hl ▸ hi)]
  exact List.getElem?_eq_getElem (hl ▸ hi)

theorem good_of_responding {r : Round} {p : Peer} (hp : p ∈ r.peers) (h : r.responding p = true) :
    ∃ m, Good r (p, m) := by
  unfold Round.responding at h
  cases hm : r.msgOf p with
  | none => rw [hm] at h; cases h
  | some m => rw [hm] at h; exact ⟨m, hp, hm, beq_iff_eq.mp h⟩

theorem honest_at {r : Round} {p : Peer} (h : r.honest p = true) {i : Nat} (hi : i < r.n) :
    r.hashAt p i = some (r.truth (r.start + i)) ∧ r.served p (r.start + i) = some (r.truth (r.start + i)) := by
  unfold Round.honest at h
  simp only [Bool.and_eq_true, List.all_eq_true, List.mem_range, beq_iff_eq] at h
  exact h.2 _ hi

theorem honest_responding {r : Round} {p : Peer} (h : r.honest p = true) : r.responding p = true := by
  unfold Round.honest at h
  exact (Bool.and_eq_true_iff.mp h).1

theorem falseAt_iff {r : Round} {pm : Peer × Msg} (g : Good r pm) {i : Nat} {f : FHash}
    (hf : pm.2.hashes[i]? = some f) : r.falseAt pm.1 i = true ↔ f ≠ r.truth (r.start + i) := by
  unfold Round.falseAt
  rw [g.hashAt, hf]
  exact bne_iff_ne

theorem HW.provableAt {r : Round} {net : Net} (hw : HW r net) {pm : Peer × Msg} (g : Good r pm) {i : Nat}
    (hi : i < r.n) (hf : r.falseAt pm.1 i = true) : r.provableAt pm.1 i = true := by
  have hliar : r.liar pm.1 = true := by
    unfold Round.liar
    rw [g.responding, g.wrongPrev]
    exact List.any_eq_true.mpr ⟨i, List.mem_range.mpr hi, hf⟩
  have hprov := hw.prov pm.1 g.1 hliar
  unfold Round.provable at hprov
  rw [g.wrongPrev, Bool.false_or, List.all_eq_true] at hprov
  have := hprov i (List.mem_range.mpr hi)
  rwa [hf, Bool.not_true, Bool.false_or] at this

/-- not the F12 shape: next to a silent or self-inconsistent entry no entry lies self-consistently -/
theorem HW.phase1Bad_of_false {r : Round} {net : Net} (hw : HW r net) {pm pm1 : Peer × Msg} (g : Good r pm)
    (g1 : Good r pm1) {i : Nat} (hi : i < r.n) (hb1 : r.phase1Bad pm1.1 i = true)
    (hf : r.falseAt pm.1 i = true) : r.phase1Bad pm.1 i = true := by
  have hns := hw.ns
  unfold Round.shapeEarlyReturn at hns
  have := List.any_eq_false.mp hns i (List.mem_range.mpr hi)
  rw [Bool.and_eq_true, List.any_eq_true, List.any_eq_true] at this
  cases hb : r.phase1Bad pm.1 i with
  | true => rfl
  | false =>
    refine absurd ⟨⟨pm1.1, g1.1, ?_⟩, ⟨pm.1, g.1, ?_⟩⟩ this
    · rw [g1.responding, hb1]; rfl
    · unfold Round.scLiarAt; rw [g.responding, hf, hb]; rfl

theorem detect_sound {r : Round} {net : Net} (hw : HW r net) {s' : St} {hs : List (Peer × Msg)} {i : Nat}
    (hi : i < r.n) (hgood : ∀ pm ∈ hs, Good r pm)
    (hlive : ∀ pm ∈ hs, pm.1 ∈ net.peers.filter (live s'))
    (hm : mismatch hs i = true) :
    ∃ bad, detect net s' hs (r.start + i) i = .ok bad ∧
      (∀ q, r.honest q = true → q ∉ bad) ∧
      (∀ pm ∈ hs, r.falseAt pm.1 i = true → pm.1 ∈ bad) := by
  -- phase 1 in terms of the round
  have hmem1 : ∀ q, q ∈ phase1 (filtersAt s' net (r.start + i)) hs i ↔
      ∃ pm ∈ hs, pm.1 = q ∧ r.phase1Bad pm.1 i = true := by
    intro q
    have hcond : ∀ pm ∈ hs, p1cond (filtersAt s' net (r.start + i)) pm i = r.phase1Bad pm.1 i := by
      intro pm hpm
      unfold p1cond Round.phase1Bad
      rw [lookupF_filtersAt _ (hlive pm hpm), hw.sv, (hgood pm hpm).hashAt]
      rfl
    unfold phase1
    rw [List.mem_map]
    exact ⟨fun ⟨pm, h, e⟩ => ⟨pm, (List.mem_filter.mp h).1, e, hcond pm (List.mem_filter.mp h).1 ▸ (List.mem_filter.mp h).2⟩,
      fun ⟨pm, h, e, hc⟩ => ⟨pm, List.mem_filter.mpr ⟨h, (hcond pm h).symm ▸ hc⟩, e⟩⟩
  have hhon1 : ∀ q, r.honest q = true → r.phase1Bad q i = false := by
    intro q hh
    unfold Round.phase1Bad
    rw [(honest_at hh hi).2, (honest_at hh hi).1]
    dsimp only
    rw [beq_self_eq_true]
    rfl
  -- a mismatch with all values true is impossible
  have ⟨pmf, hpmf, hfalse⟩ : ∃ pm ∈ hs, r.falseAt pm.1 i = true := by
    apply Classical.byContradiction
    intro hno
    have : mismatch hs i = false := (mismatch_eq_false_iff hs i).mpr ⟨r.truth (r.start + i), fun pm hpm f hf =>
      Classical.not_not.mp fun hne => hno ⟨pm, hpm, (falseAt_iff (hgood pm hpm) hf).mpr hne⟩⟩
    rw [this] at hm; cases hm
  unfold detect
  dsimp only
  cases hp : (phase1 (filtersAt s' net (r.start + i)) hs i).isEmpty with
  | true =>
    -- phase 1 found nobody: the block decides
    rw [Bool.not_true, if_neg Bool.false_ne_true, ← hw.gb, hw.fe i hi, Bool.not_true, if_neg Bool.false_ne_true]
    have hnone : ∀ pm ∈ hs, r.phase1Bad pm.1 i = false := fun pm hpm =>
      Bool.eq_false_iff.mpr fun hb => by
        have := (hmem1 pm.1).mpr ⟨pm, hpm, rfl, hb⟩
        rw [List.isEmpty_iff.mp hp] at this; cases this
    -- every entry false at i serves the filter it advertised, and the block rejects it
    have hbadmem : ∀ pm ∈ hs, r.falseAt pm.1 i = true →
        ∃ x ∈ filtersAt s' net (r.start + i), x.1 = pm.1 ∧ net.verify x.2 (r.start + i) = .bad := by
      intro pm hpm hf
      have g := hgood pm hpm
      have hpa := hw.provableAt g hi hf
      have hnb := hnone pm hpm
      unfold Round.provableAt at hpa
      unfold Round.phase1Bad at hnb
      rw [hnone pm hpm, Bool.false_or, g.hashAt, g.some hi] at hpa
      rw [g.hashAt, g.some hi, hw.sv] at hnb
      cases hsv : net.served pm.1 (r.start + i) with
      | none => rw [hsv] at hnb; cases hnb
      | some f' =>
        rw [hsv] at hnb
        have hff : pm.2.hashes[i]! = f' := Option.some.inj (beq_iff_eq.mp (Bool.not_inj (y := true) hnb))
        exact ⟨(pm.1, f'), mem_filtersAt.mpr ⟨hlive pm hpm, hsv⟩, rfl,
          hff ▸ hw.vf ▸ beq_iff_eq.mp hpa⟩
    obtain ⟨x0, hx0, -, hx0b⟩ := hbadmem pmf hpmf hfalse
    refine ⟨_, resolveFromBlock_bad _ hx0 hx0b, fun q hq hqb => ?_, fun pm hpm hf => ?_⟩
    · obtain ⟨x, hx, rfl⟩ := List.mem_map.mp hqb
      have hsv := (mem_filtersAt.mp (List.mem_filter.mp hx).1).2
      have h2 := (honest_at hq hi).2
      rw [hw.sv, hsv] at h2
      exact hw.tv i hi (hw.vf ▸ Option.some.inj h2 ▸ beq_iff_eq.mp (List.mem_filter.mp hx).2)
    · obtain ⟨x, hx, hx1, hxb⟩ := hbadmem pm hpm hf
      exact List.mem_map.mpr ⟨x, List.mem_filter.mpr ⟨hx, beq_iff_eq.mpr hxb⟩, hx1⟩
  | false =>
    -- phase 1 found somebody: those are returned at once
    rw [Bool.not_false, if_pos rfl]
    refine ⟨_, rfl, fun q hq hqb => ?_, fun pm hpm hf => ?_⟩
    · obtain ⟨pm, hpm, rfl, hb⟩ := (hmem1 q).mp hqb
      rw [hhon1 pm.1 hq] at hb; cases hb
    · obtain ⟨q, hq⟩ := List.exists_mem_of_ne_nil _ (List.isEmpty_eq_false_iff.mp hp)
      obtain ⟨pm1, hpm1, -, hb1⟩ := (hmem1 q).mp hq
      exact (hmem1 pm.1).mpr ⟨pm, hpm, rfl,
        hw.phase1Bad_of_false (hgood pm hpm) (hgood pm1 hpm1) hi hb1 hf⟩

theorem idxLoop_sound {r : Round} {net : Net} (hw : HW r net) (is : List Nat) (s' : St) (hs : List (Peer × Msg))
    (his : ∀ i ∈ is, i < r.n) (hgood : ∀ pm ∈ hs, Good r pm)
    (hlive : ∀ pm ∈ hs, pm.1 ∈ net.peers.filter (live s'))
    (hhon : ∃ pm ∈ hs, r.honest pm.1 = true) :
    ∃ (hs2 : List (Peer × Msg)) (newb : List Peer),
      idxLoop net r.start is s' hs = (ban s' newb reasonHeader, .ok hs2) ∧
      (∀ pm, pm ∈ hs2 ↔ pm ∈ hs ∧ pm.1 ∉ newb) ∧
      (∀ q, r.honest q = true → q ∉ newb) ∧
      (∀ pm ∈ hs2, ∀ i ∈ is, r.falseAt pm.1 i = false) := by
  induction is generalizing s' hs with
  | nil => exact ⟨hs, [], by rw [ban_nil]; rfl, fun pm => ⟨fun h => ⟨h, nofun⟩, fun h => h.1⟩, fun _ _ => nofun, fun _ _ _ => nofun⟩
  | cons i is ih =>
    have hi : i < r.n := his i List.mem_cons_self
    have his' : ∀ j ∈ is, j < r.n := fun j hj => his j (List.mem_cons_of_mem _ hj)
    unfold idxLoop
    cases hm : mismatch hs i with
    | true =>
      rw [if_pos rfl]
      obtain ⟨bad, hdet, hbh, hbf⟩ := detect_sound hw hi hgood hlive hm
      rw [hdet]
      dsimp only
      obtain ⟨hs2, newb, e1, e2, e3, e4⟩ := ih (ban s' bad reasonHeader) (dropPeers hs bad) his'
        (fun pm h => hgood pm (mem_dropPeers.mp h).1)
        (fun pm h => by
          obtain ⟨h1, h2⟩ := mem_dropPeers.mp h
          obtain ⟨a, b⟩ := List.mem_filter.mp (hlive pm h1)
          exact List.mem_filter.mpr ⟨a, live_ban _ b h2⟩)
        (let ⟨pm, hpm, hh⟩ := hhon; ⟨pm, mem_dropPeers.mpr ⟨hpm, hbh pm.1 hh⟩, hh⟩)
      refine ⟨hs2, bad ++ newb, by rw [e1, ban_ban], fun pm => ?_, fun q hq hqm => ?_, fun pm hpm j hj => ?_⟩
      · rw [e2, mem_dropPeers, List.mem_append, not_or, and_assoc]
      · exact (List.mem_append.mp hqm).elim (hbh q hq) (e3 q hq)
      · rcases List.mem_cons.mp hj with rfl | hj
        · have hd := mem_dropPeers.mp ((e2 pm).mp hpm).1
          exact Bool.eq_false_iff.mpr fun hf => hd.2 (hbf pm hd.1 hf)
        · exact e4 pm hpm j hj
    | false =>
      rw [if_neg Bool.false_ne_true]
      obtain ⟨hs2, newb, e1, e2, e3, e4⟩ := ih s' hs his' hgood hlive hhon
      refine ⟨hs2, newb, e1, e2, e3, fun pm hpm j hj => ?_⟩
      rcases List.mem_cons.mp hj with rfl | hj
      · -- no mismatch and an honest entry: everybody advertises the truth at j
        obtain ⟨v, hall⟩ := (mismatch_eq_false_iff hs j).mp hm
        obtain ⟨pmh, hpmh, hh⟩ := hhon
        have gh := hgood pmh hpmh
        have hvt : r.truth (r.start + j) = v :=
          hall pmh hpmh _ (gh.hashAt j ▸ (honest_at hh hi).1)
        have g := hgood pm ((e2 pm).mp hpm).1
        exact Bool.eq_false_iff.mpr fun hf =>
          (falseAt_iff g (g.some hi)).mp hf ((hall pm ((e2 pm).mp hpm).1 _ (g.some hi)).trans hvt.symm)
      · exact e4 pm hpm j hj

theorem writeMsg_bans (H : FHash → Hdr → Hdr) (s : St) (prev : Hdr) (stop : Blk) (hashes : List FHash) :
    (writeMsg H s prev stop hashes).1.bans = s.bans := by
  rcases writeMsg_cases H s prev stop hashes with ⟨o, h, _⟩ | ⟨e, hl, hh, hn0, hn1, ha⟩
  · rw [h]
  · rw [writeMsg_of_ok H s prev stop hashes e hl hh hn0 hn1 ha]

theorem idxLoop_disc (net : Net) (start : Nat) : ∀ (is : List Nat) (s : St) (hs : List (Peer × Msg)),
    (idxLoop net start is s hs).1.discBanned = s.discBanned := by
  intro is s hs
  obtain ⟨newb, h, -⟩ := idxLoop_ban net start is s hs
  rw [h]
  rfl

theorem hashes_eq_truth {r : Round} {pm : Peer × Msg} (g : Good r pm)
    (hf : ∀ i ∈ List.range r.n, r.falseAt pm.1 i = false) : pm.2.hashes = r.truthSlice := by
  have hl : pm.2.hashes.length = r.n := (accept_some g.2.1).2
  unfold Round.truthSlice
  apply List.ext_getElem
  · rw [hl, List.length_map, List.length_range]
  · intro i h1 h2
    have hi : i < r.n := hl ▸ h1
    have : pm.2.hashes[i] = r.truth (r.start + i) := Classical.not_not.mp fun hne =>
      Bool.eq_false_iff.mp (hf i (List.mem_range.mpr hi)) ((falseAt_iff g (List.getElem?_eq_getElem h1)).mpr hne)
    rw [this, List.getElem_map, List.getElem_range]

theorem stopHeight_bounds {s : St} (h : s.fstore.length < s.blocks.length) :
    s.fstore.length ≤ stopHeight s ∧ stopHeight s < s.blocks.length := by
  have hm : 0 < maxPerMsg := by decide
  have hle := Nat.le_sub_one_of_lt h
  unfold stopHeight
  dsimp only
  split
  · -- a whole message fits below the block tip
    have hfit := Nat.add_le_of_le_sub' hle ‹_ ≥ maxPerMsg›
    exact ⟨Nat.le_sub_one_of_lt (Nat.lt_add_of_pos_right hm),
      Nat.lt_of_lt_of_le (Nat.sub_one_lt (Nat.ne_of_gt (Nat.add_pos_right _ hm)))
        (Nat.le_trans hfit (Nat.sub_le _ 1))⟩
  · exact ⟨hle, Nat.sub_one_lt (Nat.ne_of_gt (Nat.zero_lt_of_lt h))⟩

theorem honest_wins_round (H : FHash → Hdr → Hdr) (s : St) (net : Net) (truth : Nat → FHash)
    (hi : Inv H s) (hnd : s.blocks.Nodup) (hahead : s.fstore.length < s.blocks.length)
    (h1 : (roundOf s net truth).hyp = true) (h2 : (roundOf s net truth).shapeEarlyReturn = false) :
    (roundOf s net truth).concl H ((tipRound H s net).1.fstore.drop s.fstore.length)
      (newBans s (tipRound H s net).1) = true := by
  have hw := HW.of_bool h1 h2
  generalize hr : roundOf s net truth = r at hw ⊢
  obtain ⟨tip, hl⟩ : ∃ tip, s.fstore.getLast? = some tip :=
    Option.isSome_iff_exists.mp (by rw [List.getLast?_isSome]; exact hi.ne)
  have hrt : r.tip = tip := by rw [← hr]; show (s.fstore.getLast?).getD 0 = tip; rw [hl]; rfl
  have hrn : r.n = batchLen s := by rw [← hr]; rfl
  have hrs : r.start = s.fstore.length := by rw [← hr]; rfl
  have hrp : ∀ q, q ∈ r.peers ↔ q ∈ net.peers.filter (live s) := by rw [← hr]; exact fun q => Iff.rfl
  have hrm : ∀ q, r.msgOf q = accept (batchLen s) (net.resps q) := by rw [← hr]; exact fun q => rfl
  -- the header map after the previous-header test, and who was banned by it
  have hmem1 : ∀ pm, pm ∈ (gather s net (batchLen s)).filter (fun pm => pm.2.prev == tip) ↔ Good r pm := by
    intro pm
    rw [List.mem_filter, mem_gather, beq_iff_eq, and_assoc, ← hrt, ← hrp, ← hrm]
    rfl
  have hwrong : ∀ q, q ∈ ((gather s net (batchLen s)).filter (fun pm => pm.2.prev != tip)).map (·.1) ↔
      q ∈ r.peers ∧ r.wrongPrev q = true := by
    intro q
    unfold Round.wrongPrev
    rw [List.mem_map, hrp, hrm, hrt]
    constructor
    · rintro ⟨pm, h, rfl⟩
      obtain ⟨a, b⟩ := mem_gather.mp (List.mem_filter.mp h).1
      rw [b]
      exact ⟨a, (List.mem_filter.mp h).2⟩
    · rintro ⟨a, b⟩
      cases hm : accept (batchLen s) (net.resps q) with
      | none => rw [hm] at b; cases b
      | some m =>
        rw [hm] at b
        exact ⟨(q, m), List.mem_filter.mpr ⟨mem_gather.mpr ⟨a, hm⟩, b⟩, rfl⟩
  generalize hH : (gather s net (batchLen s)).filter (fun pm => pm.2.prev == tip) = hs1 at hmem1
  generalize hW : ((gather s net (batchLen s)).filter (fun pm => pm.2.prev != tip)).map (·.1) = wrong at hwrong
  have hnw : ∀ pm, Good r pm → pm.1 ∉ wrong := fun pm g hq => by
    have := ((hwrong pm.1).mp hq).2
    rw [g.wrongPrev] at this; cases this
  -- the detection loop
  obtain ⟨p0, hp0, hh0⟩ := hw.hon
  obtain ⟨m0, g0⟩ := good_of_responding hp0 (honest_responding hh0)
  obtain ⟨hs2, newb, e1, e2, e3, e4⟩ := idxLoop_sound hw (List.range r.n) (ban s wrong reasonHeader) hs1
    (fun i hi => List.mem_range.mp hi) (fun pm h => (hmem1 pm).mp h)
    (fun pm h => by
      have g := (hmem1 pm).mp h
      obtain ⟨a, b⟩ := List.mem_filter.mp ((hrp pm.1).mp g.1)
      exact List.mem_filter.mpr ⟨a, live_ban _ b (hnw pm g)⟩)
    ⟨(p0, m0), (hmem1 _).mpr g0, hh0⟩
  rw [hrn, hrs] at e1
  generalize hS : ban (ban s wrong reasonHeader) newb reasonHeader = s2 at e1
  have hSf : s2.fstore = s.fstore := by rw [← hS]; rfl
  have hSb : s2.blocks = s.blocks := by rw [← hS]; rfl
  -- the round's result: the commit after the loop
  rw [tipRound_eq, round_of_ok s s net (fun s2 hs2 => commitAt H s2 s2 net.pick hs2) tip s2 hs2 hl hahead
    (by rw [hH]; exact List.isEmpty_eq_false_iff.mpr (List.ne_nil_of_mem ((hmem1 _).mpr g0)))
    (by rw [hH, hW]; exact e1)]
  -- the pick carries the true hashes
  have hlen2 : 0 < hs2.length := List.length_pos_of_mem ((e2 _).mpr ⟨(hmem1 _).mpr g0, e3 p0 hh0⟩)
  have hidx : net.pick % hs2.length < hs2.length := Nat.mod_lt _ hlen2
  have gp : Good r hs2[net.pick % hs2.length] := (hmem1 _).mp ((e2 _).mp (List.getElem_mem hidx)).1
  have hhashes := hashes_eq_truth gp (e4 _ (List.getElem_mem hidx))
  -- the stop block and the write
  obtain ⟨hsge, hsl⟩ := stopHeight_bounds hahead
  have hst : stopHeight s2 = stopHeight s := by unfold stopHeight; rw [hSf, hSb]
  have hnlen : r.truthSlice.length = stopHeight s - s.fstore.length + 1 := by
    rw [Round.truthSlice, List.length_map, List.length_range, hrn]; rfl
  have hw2 := writeMsg_of_ok H s2 tip s.blocks[stopHeight s] r.truthSlice (stopHeight s) (by rw [hSf]; exact hl)
    (by rw [hSb]; exact heightOf_getElem hnd (List.getElem?_eq_getElem hsl))
    (hnlen ▸ Nat.succ_ne_zero _) (hnlen ▸ Nat.succ_le_succ (Nat.sub_le _ _))
    (by rw [hnlen, hSf, Nat.add_sub_add_right, Nat.sub_sub_self hsge])
  have hcp : (commitAt H s2 s2 net.pick hs2).1 = (writeMsg H s2 tip s.blocks[stopHeight s] r.truthSlice).1 := by
    unfold commitAt
    rw [List.getElem?_eq_getElem hidx, hst, hSb, List.getElem?_eq_getElem hsl]
    dsimp only
    rw [wToT_fst, gp.2.2, hrt, hhashes]
  rw [hcp, hw2]
  unfold Round.concl
  rw [Bool.and_eq_true, beq_iff_eq, List.all_eq_true]
  refine ⟨by show (s2.fstore ++ _).drop _ = _; rw [hSf, List.drop_left, hrt], fun p hp => ?_⟩
  -- who was banned in the round
  have hc : ∀ s3 : St, s3.bans = s2.bans → ((newBans s s3).contains p = true ↔ p ∈ wrong ∨ p ∈ newb) := by
    intro s3 h3
    unfold newBans
    rw [h3, ← hS]
    unfold ban
    simp only [List.append_assoc, List.drop_left, List.map_append, List.map_map, List.contains_eq_mem,
      List.mem_append, List.mem_map, Function.comp_apply, decide_eq_true_eq, exists_eq_right]
  rw [Bool.and_eq_true, Bool.or_eq_true, Bool.or_eq_true, Bool.not_eq_true', Bool.not_eq_true',
    Bool.not_eq_true']
  constructor
  · -- a liar is banned
    cases hli : r.liar p with
    | false => exact .inl rfl
    | true =>
      refine .inr ((hc _ (by rfl)).mpr ?_)
      unfold Round.liar at hli
      rcases Bool.or_eq_true_iff.mp hli with hwp | hli
      · exact .inl ((hwrong p).mpr ⟨hp, hwp⟩)
      · obtain ⟨hrp, hany⟩ := Bool.and_eq_true_iff.mp hli
        obtain ⟨i, hir, hfa⟩ := List.any_eq_true.mp hany
        obtain ⟨m, g⟩ := good_of_responding hp hrp
        refine .inr (Classical.not_not.mp fun hn => ?_)
        have := e4 (p, m) ((e2 _).mpr ⟨(hmem1 _).mpr g, hn⟩) i hir
        rw [hfa] at this; cases this
  · -- an honest peer is not
    cases hho : r.honest p with
    | false => exact .inl rfl
    | true =>
      obtain ⟨m, g⟩ := good_of_responding hp (honest_responding hho)
      exact .inr (Bool.eq_false_iff.mpr fun h => ((hc _ (by rfl)).mp h).elim (hnw (p, m) g) (e3 p hho))

end Neutrino.CFHeaders
