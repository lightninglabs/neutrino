import Neutrino.Lemmas.StoreTop
/-!
One armed I/O fault: it fails the one step it is aimed at (if that step is of
its kind) and nothing else, and an append that fails puts the file back.
-/
namespace Neutrino.Store

theorem appendBytes_zero (f : FileSt) (w : Nat) (ids : List Nat) (hj : f.junk = 0) : f.appendBytes w ids 0 = f := by
  cases f; simp_all [FileSt.appendBytes]

theorem fileWrite_short (w : Which) (ids : List Nat) (c : Ctx) {a : Nat} (hi : c.inj = .fault .shortwrite c.step a) :
    ∃ t, fileWrite w ids c = .ok (some t)
      { c with step := c.step + 1, d := c.d.setFile w ((c.d.file w).appendBytes (width w) ids t) } := by
  simp only [fileWrite, hi, if_true]
  exact ⟨_, rfl⟩

/-- `appendRaw` under a fault is all or nothing: a short write is cut back to where the file ended -/
theorem appendRaw_fault (w : Which) (ids : List Nat) (c : Ctx) {k : FaultKind} {fs a : Nat}
    (hi : c.inj = .fault k fs a) (hj : (c.d.file w).junk = 0) :
    (∃ c', appendRaw w ids c = .ok false c' ∧ c'.d = c.d) ∨
    appendRaw w ids c =
      .ok true { c with step := c.step + 1, d := c.d.setFile w ((c.d.file w).appendAll (width w) ids) } := by
  unfold appendRaw
  by_cases hq : c.inj.firesAt c.step = false
  · rw [fileWrite_quiet _ _ _ hq]; exact Or.inr rfl
  · obtain rfl : fs = c.step := by simpa [hi, Inj.firesAt] using hq
    cases k with
    | shortwrite =>
      left
      obtain ⟨t, ht⟩ := fileWrite_short w ids c hi
      rw [ht]
      by_cases h0 : t > 0
      · -- the truncate that undoes the bytes written is the next step, which the fault has passed
        simp only [R.bind, h0, if_true]
        rw [fileTruncate_quiet _ _ _ (by simp [hi, Inj.firesAt])]
        exact ⟨_, rfl, by rw [setFile_setFile, setFile_file]⟩
      · simp only [R.bind, h0, if_false]
        refine ⟨_, rfl, ?_⟩
        rw [Nat.eq_zero_of_not_pos h0, appendBytes_zero _ _ _ hj, setFile_file]
    | writeerr => exact Or.inl ⟨{ c with step := c.step + 1 }, by simp [fileWrite, hi, R.bind], rfl⟩
    | truncerr => exact Or.inr (by simp [fileWrite, hi, R.bind])
    | dberr => exact Or.inr (by simp [fileWrite, hi, R.bind])

theorem dbUpdate_fault (g : Db → Db) (c : Ctx) {k : FaultKind} {fs a : Nat} (hi : c.inj = .fault k fs a) :
    (fs = c.step ∧ dbUpdate g c = .ok false { c with step := c.step + 1 }) ∨
    dbUpdate g c = .ok true { c with step := c.step + 1, d := { c.d with db := g c.d.db } } := by
  by_cases hq : c.inj.firesAt c.step = false
  · exact Or.inr (dbUpdate_quiet _ _ hq)
  · obtain rfl : fs = c.step := by simpa [hi, Inj.firesAt] using hq
    cases k <;> simp [dbUpdate, hi]

/-- **An append under any single I/O fault is all or nothing**: the call reports
an error and the durable state is exactly what it was, or the fault was aimed
elsewhere and everything is written. -/
theorem appendThenIndex_fault (w : Which) (ids : List Nat) (g : Db → Db) (c : Ctx) {k : FaultKind} {fs a : Nat}
    (hi : c.inj = .fault k fs a) (hj : (c.d.file w).junk = 0) (hne : ids ≠ []) :
    (appendThenIndex w ids g c).fin = (c.d, .err) ∨
    (appendThenIndex w ids g c).fin =
      ({ c.d.setFile w ((c.d.file w).appendAll (width w) ids) with db := g c.d.db }, .ok) := by
  unfold appendThenIndex
  rcases appendRaw_fault w ids c hi hj with ⟨c', h1, hd⟩ | h1
  · rw [h1]; exact Or.inl (by simp [R.bind, R.fin, hd])
  rw [h1]
  simp only [R.bind, Bool.not_true, Bool.false_eq_true, if_false]
  rcases dbUpdate_fault g ⟨c.d.setFile w ((c.d.file w).appendAll (width w) ids), c.step + 1, c.inj⟩ hi with
    ⟨hfs, h2⟩ | h2
  · -- the index commit failed: the repairing truncate is the next step, which the fault has passed
    left
    have hl : ids.length ≠ 0 := fun h => hne (List.eq_nil_of_length_eq_zero h)
    rw [h2]
    simp only [Bool.false_eq_true, if_false, truncateHeaders, hl, file_setFile]
    rw [fileTruncate_quiet _ _ _ (by simp [hi, Inj.firesAt, hfs]), appendAll_of_junk_eq_zero _ _ hj (width_pos w),
      truncateBy_append _ _ rfl]
    simp only [R.fin, setFile_setFile]
    exact congrArg (·, Out.err) (setFile_file c.d w)
  · rw [h2]; exact Or.inr (by simp only [R.fin, setFile_db, if_true])

/-- **An append that reports failure leaves the store as it was**, for either
store and every single injected I/O fault (short write of any length, write
error, index-commit error, truncate error, at any step); an append the fault
does not reach succeeds as specified. -/
theorem exec_append_fault (d : Durable) (l : Log) (op : Op) (k : FaultKind) (fs a : Nat) (hrep : Rep d l)
    (hc : Contract l op) (happ : ∃ ids, op = .wb ids ∨ op = .wf ids) :
    let r := exec d op (.fault k fs a)
    (r.2 = .err ∧ r.1 = d) ∨ (r.2 = .ok ∧ Rep r.1 (l.apply op)) := by
  obtain ⟨ids, rfl | rfl⟩ := happ
  · show _ ∨ _ ∧ Rep _ { l with blocks := l.blocks ++ ids }
    rw [exec_wb hrep]
    by_cases he : ids = []
    · subst he
      rw [writeBlocks]
      rcases appendRaw_fault .B [] { d := d, inj := .fault k fs a } rfl (by simp [Durable.file, hrep.bents]) with
        ⟨c', h1, hd⟩ | h1
      · rw [h1]; exact Or.inl ⟨rfl, hd⟩
      · rw [h1]; refine Or.inr ⟨rfl, ?_⟩
        show Rep (d.setFile .B _) _
        rw [hrep.appendAllB, List.append_nil, ← hrep.bents]; exact hrep
    · rw [writeBlocks_eq he]
      rcases appendThenIndex_fault .B ids _ { d := d, inj := .fault k fs a } rfl
        (by simp [Durable.file, hrep.bents]) he with h | h
      · rw [h]; exact Or.inl ⟨rfl, rfl⟩
      · rw [h]; exact Or.inr ⟨rfl, hrep.appendB hc.1 hc.2 he⟩
  · show _ ∨ _ ∧ Rep _ { l with filters := l.filters ++ ids }
    obtain ⟨last, hlast, he⟩ := exec_wf hrep ids (.fault k fs a) hc
    rw [he]
    by_cases hne : ids = []
    · subst hne
      exact Or.inr ⟨rfl, by rw [List.append_nil]; exact hrep⟩
    · rw [writeFilters_eq hne]
      rcases appendThenIndex_fault .F ids _ { d := d, inj := .fault k fs a } rfl
        (by simp [Durable.file, hrep.fents]) hne with h | h
      · rw [h]; exact Or.inl ⟨rfl, rfl⟩
      · rw [h]; exact Or.inr ⟨rfl, hrep.appendF hne (hlast hne)⟩

end Neutrino.Store
