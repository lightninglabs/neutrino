import Neutrino.Spec.GetCFilter
import Neutrino.Lemmas.GetBlock
namespace Neutrino.GetCFilter
open Neutrino

/-- `batchSize` of `prepareCFiltersQuery` -/
def batchSize (mb : Int) : Int := if mb > 0 ∧ mb < maxRange then mb else maxRange

theorem batchSize_spec (mb : Int) :
    1 ≤ batchSize mb ∧ batchSize mb ≤ maxRange ∧ (0 < mb ∧ mb < maxRange → batchSize mb = mb) := by
  unfold batchSize
  split
  · next h => exact ⟨h.1, Int.le_of_lt h.2, fun _ => rfl⟩
  · next h => exact ⟨by decide, Int.le_refl _, fun h' => absurd h' h⟩

theorem ite_max (a b : Int) : (if a < b then b else a) = max a b := by
  split
  · next h => exact (Int.max_eq_right (Int.le_of_lt h)).symm
  · next h => exact (Int.max_eq_left (Int.not_lt.mp h)).symm

theorem ite_min (a b : Int) : (if b < a then b else a) = min a b := by
  split
  · next h => exact (Int.min_eq_right (Int.le_of_lt h)).symm
  · next h => exact (Int.min_eq_left (Int.not_lt.mp h)).symm

/-- the two clamps of `rangeOf` as `max` / `min`, the form both spellings of the code's clamps reduce to -/
theorem rangeOf_clamped (height best : Int) (bt : Batch) (maxBatch : Int) :
    rangeOf height best bt maxBatch =
      (let ss : Int × Int := match bt with
         | .none => (height, height)
         | .forward => (height, height + batchSize maxBatch - 1)
         | .reverse => (height - batchSize maxBatch + 1, height)
       (max ss.1 1, min ss.2 best)) :=
  Prod.ext (ite_max _ 1) (ite_min _ best)

theorem rangeOf_bounds (h best : Int) (bt : Batch) (mb : Int) :
    1 ≤ (rangeOf h best bt mb).1 ∧ (rangeOf h best bt mb).2 ≤ best := by
  rw [rangeOf_clamped]
  exact ⟨Int.le_max_right .., Int.min_le_right ..⟩

theorem clamp_spec {s e h best mb : Int} {r : Int × Int} (hr : r = (max s 1, min e best)) (h1 : 1 ≤ h)
    (h2 : h ≤ best) (hs : s ≤ h) (he : h ≤ e) (hn : e - s + 1 ≤ batchSize mb) :
    1 ≤ r.1 ∧ r.1 ≤ h ∧ h ≤ r.2 ∧ r.2 ≤ best ∧ r.2 - r.1 + 1 ≤ maxRange ∧
    (0 < mb ∧ mb < maxRange → r.2 - r.1 + 1 ≤ mb) := by
  subst hr
  obtain ⟨_, n2, n3⟩ := batchSize_spec mb
  have hlen : min e best - max s 1 + 1 ≤ batchSize mb :=
    Int.le_trans (Int.add_le_add_right (Int.sub_le_sub (Int.min_le_left ..) (Int.le_max_left ..)) 1) hn
  exact ⟨Int.le_max_right .., Int.max_le.mpr ⟨hs, h1⟩, Int.le_min.mpr ⟨he, h2⟩, Int.min_le_right ..,
    Int.le_trans hlen n2, fun hm => n3 hm ▸ hlen⟩

theorem rangeOf_spec (h best : Int) (bt : Batch) (mb : Int) (h1 : 1 ≤ h) (h2 : h ≤ best) :
    1 ≤ (rangeOf h best bt mb).1 ∧ (rangeOf h best bt mb).1 ≤ h ∧ h ≤ (rangeOf h best bt mb).2 ∧
    (rangeOf h best bt mb).2 ≤ best ∧ (rangeOf h best bt mb).2 - (rangeOf h best bt mb).1 + 1 ≤ maxRange ∧
    (0 < mb ∧ mb < maxRange → (rangeOf h best bt mb).2 - (rangeOf h best bt mb).1 + 1 ≤ mb) := by
  have hn := (batchSize_spec mb).1
  have hr := Int.le_refl h
  cases bt
  · exact clamp_spec (rangeOf_clamped ..) h1 h2 hr hr (by rw [Int.sub_self, Int.zero_add]; exact hn)
  · exact clamp_spec (s := h) (e := h + batchSize mb - 1) (rangeOf_clamped ..) h1 h2 hr
      (Int.le_sub_one_of_lt (Int.lt_add_of_pos_right h hn)) (by omega)
  · exact clamp_spec (s := h - batchSize mb + 1) (e := h) (rangeOf_clamped ..) h1 h2
      (Int.add_one_le_of_lt (Int.sub_lt_self h hn)) hr (by omega)

theorem rangeOf_none_eq {h best : Int} (mb : Int) (h1 : 1 ≤ h) (h2 : h ≤ best) :
    rangeOf h best .none mb = (h, h) := by
  rw [rangeOf_clamped]
  exact Prod.ext (Int.max_eq_left h1) (Int.min_eq_left h2)

theorem lookup_mem {l : List (Nat × Nat)} {k i : Nat} (h : lookup l k = some i) : (k, i) ∈ l := by
  unfold lookup at h
  cases hf : l.find? (·.1 == k) with
  | none => rw [hf] at h; cases h
  | some p =>
    rw [hf] at h
    cases h
    have hk : p.1 = k := by simpa using List.find?_some hf
    exact hk ▸ List.mem_of_find?_eq_some hf

theorem lookup_eq_none_iff {l : List (Nat × Nat)} {k : Nat} : lookup l k = none ↔ ∀ p ∈ l, p.1 ≠ k := by
  simp only [lookup, Option.map_eq_none_iff, List.find?_eq_none, beq_iff_eq]

theorem mem_eraseKey_iff {l : List (Nat × Nat)} {k : Nat} {p : Nat × Nat} : p ∈ eraseKey l k ↔ p ∈ l ∧ p.1 ≠ k := by
  simp only [eraseKey, List.mem_filter, Bool.not_eq_true', beq_eq_false_iff_ne]

theorem lookup_eraseKey_self (l : List (Nat × Nat)) (k : Nat) : lookup (eraseKey l k) k = none :=
  lookup_eq_none_iff.mpr fun _ hp => (mem_eraseKey_iff.mp hp).2

theorem mem_dbPut {db : List (Nat × Nat)} {k v : Nat} {p : Nat × Nat} (h : p ∈ dbPut db k v) : p = (k, v) ∨ p ∈ db :=
  (List.mem_cons.mp h).imp_right fun h => (mem_eraseKey_iff.mp h).1

theorem lookup_dbPut_self (db : List (Nat × Nat)) (k v : Nat) : lookup (dbPut db k v) k = some v := by
  simp [lookup, dbPut]

theorem lookup_dbPut_other (db : List (Nat × Nat)) (k k' v : Nat) (h : k' ≠ k) :
    lookup (dbPut db k v) k' = lookup db k' := by
  unfold lookup dbPut eraseKey
  rw [List.find?_cons_of_neg (by simpa using Ne.symm h), List.find?_filter]
  congr 2; funext x
  by_cases hx : x.1 = k' <;> simp [hx, h]

theorem mem_mkIndex (start n : Nat) : ∀ p ∈ mkIndex start n, 1 ≤ p.2 ∧ p.2 ≤ n ∧ p.1 + 1 = start + p.2 := by
  induction n with
  | zero => intro p h; cases h
  | succ n ih =>
    intro p h
    rcases List.mem_append.mp h with h | h
    · obtain ⟨a, b, c⟩ := ih p h; exact ⟨a, Nat.le_succ_of_le b, c⟩
    · cases List.mem_singleton.mp h; exact ⟨Nat.succ_pos n, Nat.le_refl _, rfl⟩

theorem mkIndex_covers (start n k : Nat) (hk : k < n) : (start + k, k + 1) ∈ mkIndex start n := by
  induction n with
  | zero => cases hk
  | succ n ih =>
    refine List.mem_append.mpr ?_
    rcases Nat.lt_succ_iff_lt_or_eq.mp hk with h | h
    · exact Or.inl (ih h)
    · exact Or.inr (h ▸ List.mem_singleton.mpr rfl)

theorem getD_take_drop (l : List Nat) (k n i : Nat) (hi : i < n) :
    ((l.drop k).take n).getD i 0 = l.getD (k + i) 0 := by
  rw [List.getD_eq_getElem?_getD, List.getD_eq_getElem?_getD, List.getElem?_take_of_lt hi, List.getElem?_drop]

/-- a filter for block `blk` that hashes with the committed previous header to
the committed header of the block -/
def Good (hs : Hashing) (fhs : List Nat) (blk fid : Nat) : Prop :=
  1 ≤ blk ∧ blk < fhs.length ∧ hs.hdr fid (fhs.getD (blk - 1) 0) = fhs.getD blk 0

def StoreOk (hs : Hashing) (fhs : List Nat) (st : Store) : Prop :=
  (∀ e ∈ st.cache.items, Good hs fhs e.key e.vid) ∧ (∀ p ∈ st.db, Good hs fhs p.1 p.2)

/-- the query's private copy of the headers agrees with the store it was prepared from -/
def QueryOk (hs : Hashing) (fhs : List Nat) (q : Query) : Prop :=
  (∀ p ∈ q.index, 1 ≤ p.2 ∧ 1 ≤ p.1 ∧ p.1 < fhs.length ∧
      q.fhdrs.getD p.2 0 = fhs.getD p.1 0 ∧ q.fhdrs.getD (p.2 - 1) 0 = fhs.getD (p.1 - 1) 0) ∧
  (∀ r, q.found = some r → r.blk = q.target ∧ Good hs fhs r.blk r.fid)

/-- the query `prepare` builds once the range `r` is settled -/
def queryOf (c : Chain) (t : Nat) (r : Int × Int) : Query :=
  { start := r.1, stop := r.2, fhdrs := (c.fhs.drop (r.1.toNat - 1)).take ((r.2 - r.1 + 1).toNat + 1),
    index := mkIndex r.1.toNat (r.2 - r.1 + 1).toNat, target := t }

theorem prepare_ok_iff {c : Chain} {t : Nat} {bt : Batch} {mb : Int} {q : Query} :
    prepare c t bt mb = .ok q ↔ t ≤ c.best ∧
      0 ≤ (rangeOf t c.best bt mb).2 - (rangeOf t c.best bt mb).1 + 1 ∧ queryOf c t (rangeOf t c.best bt mb) = q := by
  unfold prepare
  by_cases hb : t > c.best
  · have : ¬ t ≤ c.best := Nat.not_le.mpr hb
    split <;> simp only [reduceCtorEq, this, false_and]
  · have ht : ¬ t > c.tip := fun h => hb (Nat.lt_of_le_of_lt (Nat.min_le_left ..) h)
    simp only [ht, hb, ↓reduceIte, Nat.not_lt.mp hb, true_and]
    split
    · next hn => simp only [reduceCtorEq, Int.not_le.mpr hn, false_and]
    · next hn => simp only [Except.ok.injEq, Int.not_lt.mp hn, queryOf, true_and]

/-- every block awaited by an index over heights `S … S+N-1` is mapped to the position of its own header in
the slice of the headers `S-1 … S+N-1` -/
theorem mkIndex_aligned (fhs : List Nat) {S N : Nat} (hS : 1 ≤ S) (hN : S + N ≤ fhs.length) :
    ∀ p ∈ mkIndex S N, 1 ≤ p.2 ∧ 1 ≤ p.1 ∧ p.1 < fhs.length ∧
      ((fhs.drop (S - 1)).take (N + 1)).getD p.2 0 = fhs.getD p.1 0 ∧
      ((fhs.drop (S - 1)).take (N + 1)).getD (p.2 - 1) 0 = fhs.getD (p.1 - 1) 0 := by
  intro p hp
  obtain ⟨a, b, e⟩ := mem_mkIndex S N p hp
  have e2 : p.1 + 1 ≤ fhs.length := e ▸ Nat.le_trans (Nat.add_le_add_left b S) hN
  have e3 : S - 1 + p.2 = p.1 := by rw [← Nat.sub_add_comm hS, ← e, Nat.add_sub_cancel]
  have e4 : S - 1 + (p.2 - 1) = p.1 - 1 := by rw [← Nat.add_sub_assoc a, e3]
  rw [getD_take_drop _ _ _ _ (Nat.lt_succ_of_le b),
    getD_take_drop _ _ _ _ (Nat.lt_succ_of_le (Nat.le_trans (Nat.sub_le ..) b)), e3, e4]
  exact ⟨a, e3 ▸ Nat.le_trans a (Nat.le_add_left ..), e2, rfl, rfl⟩

theorem queryOf_aligned (c : Chain) (t : Nat) {r : Int × Int} (h1 : 1 ≤ r.1) (h2 : r.2 ≤ c.best)
    (h0 : 0 ≤ r.2 - r.1 + 1) (hne : 1 ≤ c.fhs.length) :
    ∀ p ∈ (queryOf c t r).index, 1 ≤ p.2 ∧ 1 ≤ p.1 ∧ p.1 < c.fhs.length ∧
      (queryOf c t r).fhdrs.getD p.2 0 = c.fhs.getD p.1 0 ∧
      (queryOf c t r).fhdrs.getD (p.2 - 1) 0 = c.fhs.getD (p.1 - 1) 0 := by
  have hbl : c.best + 1 ≤ c.fhs.length := Nat.add_le_of_le_sub hne (Nat.min_le_right ..)
  have eS := Int.toNat_of_nonneg (Int.le_trans (by decide) h1)
  have eN := Int.toNat_of_nonneg h0
  unfold queryOf
  generalize r.1.toNat = S at eS
  generalize (r.2 - r.1 + 1).toNat = N at eN
  exact mkIndex_aligned c.fhs (Int.ofNat_le.mp (eS ▸ h1)) (by omega)

theorem queryOf_covers (c : Chain) (t : Nat) {r : Int × Int} (hr : 1 ≤ r.1) (b : Nat) (h1 : r.1 ≤ (b : Int))
    (h2 : (b : Int) ≤ r.2) : ∃ i, (b, i) ∈ (queryOf c t r).index := by
  have eS := Int.toNat_of_nonneg (Int.le_trans (by decide) hr)
  have eN := Int.toNat_of_nonneg (Int.le_add_one (Int.sub_nonneg_of_le (Int.le_trans h1 h2)))
  unfold queryOf
  generalize r.1.toNat = S at eS
  generalize (r.2 - r.1 + 1).toNat = N at eN
  obtain ⟨j, rfl⟩ := Nat.exists_eq_add_of_le (Int.ofNat_le.mp (eS ▸ h1) : S ≤ b)
  exact ⟨_, mkIndex_covers S N j (by omega)⟩

theorem prepare_covers (c : Chain) (t : Nat) (bt : Batch) (mb : Int) (q : Query)
    (h : prepare c t bt mb = .ok q) (b : Nat) (h1 : q.start ≤ (b : Int)) (h2 : (b : Int) ≤ q.stop) :
    ∃ i, (b, i) ∈ q.index := by
  obtain ⟨_, _, rfl⟩ := prepare_ok_iff.mp h
  exact queryOf_covers c t (rangeOf_bounds ..).1 b h1 h2

theorem prepare_range {c : Chain} {t : Nat} {bt : Batch} {mb : Int} {q : Query} (hp : prepare c t bt mb = .ok q)
    (h1 : 1 ≤ t) :
    1 ≤ q.start ∧ q.start ≤ t ∧ (t : Int) ≤ q.stop ∧ q.stop ≤ c.best ∧ q.stop - q.start + 1 ≤ maxRange ∧
    (0 < mb ∧ mb < maxRange → q.stop - q.start + 1 ≤ mb) ∧ (bt = .none → q.start = t ∧ q.stop = t) := by
  obtain ⟨h2, _, rfl⟩ := prepare_ok_iff.mp hp
  have h1' : (1 : Int) ≤ t := Int.ofNat_le.mpr h1
  have h2' : (t : Int) ≤ c.best := Int.ofNat_le.mpr h2
  obtain ⟨a, b, c', d, e, f⟩ := rangeOf_spec t c.best bt mb h1' h2'
  simp only [queryOf]
  exact ⟨a, b, c', d, e, f, fun hb => by rw [hb, rangeOf_none_eq mb h1' h2']; exact ⟨rfl, rfl⟩⟩

theorem verify_some {hs : Hashing} {q : Query} {r : Resp} {i : Nat} (h : verify hs q r = some i) :
    r.isCFilter = true ∧ r.ftypeOk = true ∧ lookup q.index r.blk = some i ∧ r.decodes = true ∧
    hs.hdr r.fid (q.fhdrs.getD (i - 1) 0) = q.fhdrs.getD i 0 := by
  unfold verify at h
  cases h1 : r.isCFilter <;> simp only [h1, ↓reduceIte, Bool.true_eq_false] at h
  · cases h
  cases h2 : r.ftypeOk <;> simp only [h2, ↓reduceIte, Bool.true_eq_false] at h
  · cases h
  cases hl : lookup q.index r.blk <;> simp only [hl] at h
  · cases h
  cases h3 : r.decodes <;> simp only [h3, ↓reduceIte, Bool.true_eq_false] at h
  · cases h
  split at h
  · cases h
  · next hne => cases h; exact ⟨rfl, rfl, rfl, rfl, Decidable.not_not.mp hne⟩

theorem verify_none_of (hs : Hashing) (q : Query) (r : Resp)
    (h : r.isCFilter = false ∨ r.ftypeOk = false ∨ lookup q.index r.blk = none ∨ r.decodes = false ∨
      (∀ i, lookup q.index r.blk = some i → hs.hdr r.fid (q.fhdrs.getD (i - 1) 0) ≠ q.fhdrs.getD i 0)) :
    verify hs q r = none := by
  cases hv : verify hs q r with
  | none => rfl
  | some i =>
    obtain ⟨a, b, c, d, e⟩ := verify_some hv
    rcases h with h | h | h | h | h
    · rw [a] at h; cases h
    · rw [b] at h; cases h
    · rw [c] at h; cases h
    · rw [d] at h; cases h
    · exact absurd e (h i c)

theorem handle_reject (hs : Hashing) (qs : Query × Store) (r : Resp) (h : verify hs qs.1 r = none) :
    handle hs qs r = (qs, .none) := by
  simp only [handle, h]

theorem handle_accept (hs : Hashing) (qs : Query × Store) (r : Resp) (i : Nat) (h : verify hs qs.1 r = some i) :
    handle hs qs r = accept qs.1 qs.2 r := by
  simp only [handle, h]

theorem handle_progress_iff (hs : Hashing) (qs : Query × Store) (r : Resp) :
    (handle hs qs r).2 ≠ .none ↔ (verify hs qs.1 r).isSome = true := by
  cases hv : verify hs qs.1 r with
  | none => rw [handle_reject hs qs r hv]; simp
  | some i =>
    rw [handle_accept hs qs r i hv]
    simp only [accept, Option.isSome_some, iff_true]
    split <;> simp

theorem cachePut_ok (hs : Hashing) (fhs : List Nat) (st : Store) (k v z : Nat)
    (hst : ∀ e ∈ st.cache.items, Good hs fhs e.key e.vid)
    (hg : Good hs fhs k v) : ∀ e ∈ (cachePut st k v z).cache.items, Good hs fhs e.key e.vid := by
  intro e he
  rcases GetBlock.spec_put_items e he with h1 | h1
  · exact hst e h1
  · exact h1 ▸ hg

theorem handle_ok (hs : Hashing) (fhs : List Nat) (qs : Query × Store) (r : Resp)
    (hq : QueryOk hs fhs qs.1) (hst : StoreOk hs fhs qs.2) :
    QueryOk hs fhs (handle hs qs r).1.1 ∧ StoreOk hs fhs (handle hs qs r).1.2 ∧
    (handle hs qs r).1.1.target = qs.1.target := by
  cases hv : verify hs qs.1 r with
  | none => rw [handle_reject hs qs r hv]; exact ⟨hq, hst, rfl⟩
  | some i =>
    rw [handle_accept hs qs r i hv]
    obtain ⟨_, _, hl, _, hh⟩ := verify_some hv
    obtain ⟨_, hb1, hb2, hcur, hprev⟩ := hq.1 (r.blk, i) (lookup_mem hl)
    have hgood : Good hs fhs r.blk r.fid := ⟨hb1, hb2, by rw [← hprev, ← hcur]; exact hh⟩
    refine ⟨⟨fun p hp => hq.1 p (mem_eraseKey_iff.mp hp).1, fun r' hr' => ?_⟩, ⟨fun e he => ?_, fun p hp => ?_⟩, rfl⟩
    · simp only [accept] at hr'
      split at hr'
      · next heq => cases hr'; exact ⟨heq, hgood⟩
      · exact hq.2 r' hr'
    · exact cachePut_ok hs fhs qs.2 r.blk r.fid r.size hst.1 hgood e he
    · simp only [accept] at hp
      split at hp
      · rcases mem_dbPut hp with h1 | h1
        · exact h1 ▸ hgood
        · exact hst.2 p h1
      · exact hst.2 p hp

theorem feed_inv (hs : Hashing) (cont : Bool) (P : Query × Store → Prop) (rs : List Resp)
    (hstep : ∀ qs, ∀ r ∈ rs, P qs → P (handle hs qs r).1) : ∀ qs, P qs → P (feed hs cont qs rs).1 := by
  induction rs with
  | nil => exact fun _ h => h
  | cons a rs ih =>
    intro qs h
    have ha := hstep qs a List.mem_cons_self h
    simp only [feed]
    split
    · exact ha
    · exact ih (fun qs r hr => hstep qs r (List.mem_cons_of_mem _ hr)) _ ha

theorem feed_ok (hs : Hashing) (fhs : List Nat) (cont : Bool) (rs : List Resp) (qs : Query × Store)
    (hq : QueryOk hs fhs qs.1) (hst : StoreOk hs fhs qs.2) :
    QueryOk hs fhs (feed hs cont qs rs).1.1 ∧ StoreOk hs fhs (feed hs cont qs rs).1.2 ∧
    (feed hs cont qs rs).1.1.target = qs.1.target :=
  feed_inv hs cont (fun qs' => QueryOk hs fhs qs'.1 ∧ StoreOk hs fhs qs'.2 ∧ qs'.1.target = qs.1.target) rs
    (fun qs' r _ ⟨h1, h2, h3⟩ => have ⟨g1, g2, g3⟩ := handle_ok hs fhs qs' r h1 h2; ⟨g1, g2, g3.trans h3⟩)
    qs ⟨hq, hst, rfl⟩

theorem feed_all_rejected (hs : Hashing) (cont : Bool) (rs : List Resp) (qs : Query × Store)
    (h : ∀ r ∈ rs, verify hs qs.1 r = none) : (feed hs cont qs rs).1 = qs :=
  feed_inv hs cont (· = qs) rs (fun _ r hr e => e ▸ (congrArg Prod.fst (handle_reject hs qs r (h r hr)))) qs rfl

theorem handle_index_sub (hs : Hashing) (qs : Query × Store) (r : Resp) :
    ∀ p ∈ (handle hs qs r).1.1.index, p ∈ qs.1.index := by
  intro p hp
  cases hv : verify hs qs.1 r with
  | none => rw [handle_reject hs qs r hv] at hp; exact hp
  | some i =>
    rw [handle_accept hs qs r i hv] at hp
    exact (mem_eraseKey_iff.mp hp).1

theorem feed_lookup_none (hs : Hashing) (cont : Bool) (rs : List Resp) (k : Nat) (qs : Query × Store) :
    lookup qs.1.index k = none → lookup (feed hs cont qs rs).1.1.index k = none :=
  feed_inv hs cont (fun qs => lookup qs.1.index k = none) rs
    (fun qs r _ h => lookup_eq_none_iff.mpr fun p hp => lookup_eq_none_iff.mp h p (handle_index_sub hs qs r p hp)) qs

theorem handle_accepted_not_awaited (hs : Hashing) (qs : Query × Store) (r : Resp)
    (h : (handle hs qs r).2 ≠ .none) : lookup (handle hs qs r).1.1.index r.blk = none := by
  cases hv : verify hs qs.1 r with
  | none => rw [handle_reject hs qs r hv] at h; exact absurd rfl h
  | some i => rw [handle_accept hs qs r i hv]; exact lookup_eraseKey_self _ _

theorem feed_received (hs : Hashing) (cont : Bool) (rs : List Resp) (qs : Query × Store) (p : Nat × Nat)
    (hp : p ∈ qs.1.index) : p ∈ (feed hs cont qs rs).1.1.index ∨
      ∃ r ∈ rs, r.blk = p.1 ∧ r.isCFilter = true ∧ r.ftypeOk = true ∧ r.decodes = true := by
  refine feed_inv hs cont (fun qs => p ∈ qs.1.index ∨
    ∃ r ∈ rs, r.blk = p.1 ∧ r.isCFilter = true ∧ r.ftypeOk = true ∧ r.decodes = true) rs (fun qs a ha h => ?_) qs
    (Or.inl hp)
  refine h.elim (fun hp => ?_) Or.inr
  cases hv : verify hs qs.1 a with
  | none => rw [handle_reject hs qs a hv]; exact Or.inl hp
  | some i =>
    rw [handle_accept hs qs a i hv]
    obtain ⟨h1, h2, _, h3, _⟩ := verify_some hv
    by_cases hk : p.1 = a.blk
    · exact Or.inr ⟨a, ha, hk.symm, h1, h2, h3⟩
    · exact Or.inl (mem_eraseKey_iff.mpr ⟨hp, hk⟩)

theorem handle_finished_index (hs : Hashing) (qs : Query × Store) (r : Resp)
    (h : (handle hs qs r).2 = .finished) : (handle hs qs r).1.1.index = [] := by
  cases hv : verify hs qs.1 r with
  | none => rw [handle_reject hs qs r hv] at h; cases h
  | some i =>
    rw [handle_accept hs qs r i hv] at h ⊢
    simp only [accept] at h ⊢
    split at h
    · next he => exact List.isEmpty_iff.mp he
    · cases h

theorem feed_index_nil (hs : Hashing) (cont : Bool) (rs : List Resp) (qs : Query × Store) :
    qs.1.index = [] → (feed hs cont qs rs).1.1.index = [] :=
  feed_inv hs cont (fun qs => qs.1.index = []) rs
    (fun qs r _ h => List.eq_nil_iff_forall_not_mem.mpr fun p hp => by
      have := handle_index_sub hs qs r p hp; rw [h] at this; cases this) qs

theorem feed_finished_index (hs : Hashing) (cont : Bool) (rs : List Resp) : ∀ (qs : Query × Store),
    Progress.finished ∈ (feed hs cont qs rs).2 → (feed hs cont qs rs).1.1.index = [] := by
  induction rs with
  | nil => intro qs h; cases h
  | cons a rs ih =>
    intro qs h
    simp only [feed] at h ⊢
    split
    · next hc => exact handle_finished_index hs qs a hc.1
    · next hc =>
      rw [if_neg hc] at h
      rcases List.mem_cons.mp h with h | h
      · exact feed_index_nil hs cont rs _ (handle_finished_index hs qs a h.symm)
      · exact ih _ h

/-- whatever the stream, `targetFilter` is only ever set by a response naming the
requested hash, and only if that hash was among the awaited blocks -/
theorem feed_found (hs : Hashing) (cont : Bool) (rs : List Resp) (qs : Query × Store) (x : Resp)
    (h : (feed hs cont qs rs).1.1.found = some x) :
    qs.1.found = some x ∨ (x.blk = qs.1.target ∧ ∃ i, (qs.1.target, i) ∈ qs.1.index) := by
  refine (feed_inv hs cont (fun qs' => qs'.1.target = qs.1.target ∧ (∀ p ∈ qs'.1.index, p ∈ qs.1.index) ∧
    (qs'.1.found = some x → qs.1.found = some x ∨ (x.blk = qs.1.target ∧ ∃ i, (qs.1.target, i) ∈ qs.1.index)))
    rs (fun qs' r _ ⟨ht, hsub, hf⟩ => ?_) qs ⟨rfl, fun _ h => h, Or.inl⟩).2.2 h
  cases hv : verify hs qs'.1 r with
  | none => rw [handle_reject hs qs' r hv]; exact ⟨ht, hsub, hf⟩
  | some i =>
    rw [handle_accept hs qs' r i hv]
    refine ⟨ht, fun p hp => hsub p (mem_eraseKey_iff.mp hp).1, fun hx => ?_⟩
    simp only [accept] at hx
    split at hx
    · next heq =>
      cases hx
      exact Or.inr ⟨heq.trans ht, i, hsub _ (ht ▸ heq ▸ lookup_mem (verify_some hv).2.2.1)⟩
    · exact hf hx

theorem feed_target_not_awaited (hs : Hashing) (cont : Bool) (rs : List Resp) (qs : Query × Store)
    (hnone : qs.1.found = none) (hna : ∀ i, (qs.1.target, i) ∉ qs.1.index) :
    (feed hs cont qs rs).1.1.found = none := by
  cases hf : (feed hs cont qs rs).1.1.found with
  | none => rfl
  | some x =>
    rcases feed_found hs cont rs qs x hf with h | ⟨_, i, hi⟩
    · rw [hnone] at h; cases h
    · exact absurd hi (hna i)

/-- after a reorganisation between the lookups the index names the blocks of the
new chain: the requested hash is awaited only if it is the same block on both -/
theorem prepareReorg_index (c : Chain) (rg : Reorg) (t : Nat) (bt : Batch) (mb : Int) (q : Query)
    (htip : c.tip < altBase) (h : prepareReorg c rg t bt mb = .ok q) :
    q.target = t ∧ q.found = none ∧ (rg.fork < t → ∀ i, (t, i) ∉ q.index) := by
  unfold prepareReorg at h
  split at h
  · cases h
  · next ht =>
    cases hp : prepare rg.chain t bt mb with
    | error e => rw [hp] at h; cases h
    | ok q0 =>
      rw [hp] at h
      cases h
      obtain ⟨_, _, rfl⟩ := prepare_ok_iff.mp hp
      refine ⟨rfl, rfl, fun hfork i hmem => ?_⟩
      obtain ⟨p, _, hp2⟩ := List.mem_map.mp hmem
      have hid : rg.idAt p.1 = t := congrArg Prod.fst hp2
      unfold Reorg.idAt at hid
      split at hid
      · exact absurd (Nat.lt_of_lt_of_le htip (Nat.le_trans (Nat.le_add_right ..) (hid ▸ Nat.not_lt.mp ht)))
          (Nat.lt_irrefl _)
      · next hle => exact hle (hid ▸ hfork)

/-- the branch after both lookups missed -/
def afterMiss (hs : Hashing) (s : State) (c : Call) : Outcome :=
  match prepare s.chain c.target c.batch c.maxBatch with
  | .error _ => ⟨s, .errPrepare, .nowhere, [], none⟩
  | .ok q =>
    let hp := feed hs c.cont (q, s.store) c.resps
    let s1 : State := { s with store := hp.1.2 }
    let rg := some (q.start, q.stop)
    match c.verdict with
    | .quit => ⟨s1, .errQuit, .nowhere, hp.2, rg⟩
    | .err => ⟨s1, .errQuery, .nowhere, hp.2, rg⟩
    | .nil =>
      match hp.1.1.found with
      | none => ⟨s1, .errFetchFailed, .nowhere, hp.2, rg⟩
      | some r => ⟨s1, .ret r.fid, .network, hp.2, rg⟩

theorem getCFilter_cases (hs : Hashing) (s : State) (c : Call) :
    (c.regular = false ∧ getCFilter hs s c = ⟨s, .errType, .nowhere, [], none⟩) ∨
    (∃ e ∈ s.store.cache.items, e.key = c.target ∧ getCFilter hs s c =
      ⟨{ s with store := { s.store with cache := { s.store.cache with items := s.store.cache.items.erase e ++ [e] } } },
        .ret e.vid, .cache, [], none⟩) ∨
    ((∀ e ∈ s.store.cache.items, e.key ≠ c.target) ∧ ∃ fid, lookup s.store.db c.target = some fid ∧
      getCFilter hs s c = ⟨s, .ret fid, .db, [], none⟩) ∨
    ((∀ e ∈ s.store.cache.items, e.key ≠ c.target) ∧ lookup s.store.db c.target = none ∧
      getCFilter hs s c = afterMiss hs s c) := by
  cases hreg : c.regular with
  | false => exact Or.inl ⟨rfl, by simp only [getCFilter, hreg, ↓reduceIte]⟩
  | true =>
    rcases GetBlock.spec_get s.store.cache c.target with ⟨e, he, hk, heq⟩ | ⟨hno, heq⟩
    · exact Or.inr (Or.inl ⟨e, he, hk, by simp only [getCFilter, hreg, Bool.true_eq_false, ↓reduceIte, heq]⟩)
    · cases hl : lookup s.store.db c.target with
      | some fid =>
        exact Or.inr (Or.inr (Or.inl ⟨hno, fid, rfl, by
          simp only [getCFilter, hreg, Bool.true_eq_false, ↓reduceIte, heq, hl]⟩))
      | none =>
        exact Or.inr (Or.inr (Or.inr ⟨hno, rfl, by
          simp only [getCFilter, afterMiss, hreg, Bool.true_eq_false, ↓reduceIte, heq, hl]; rfl⟩))

theorem afterMiss_shape (hs : Hashing) (s : State) (c : Call) :
    ((∃ e, prepare s.chain c.target c.batch c.maxBatch = .error e) ∧
      afterMiss hs s c = ⟨s, .errPrepare, .nowhere, [], none⟩) ∨
    ∃ q res src, prepare s.chain c.target c.batch c.maxBatch = .ok q ∧
      afterMiss hs s c = ⟨{ s with store := (feed hs c.cont (q, s.store) c.resps).1.2 }, res, src,
        (feed hs c.cont (q, s.store) c.resps).2, some (q.start, q.stop)⟩ ∧
      (res.isRet = false ∨
        c.verdict = .nil ∧ ∃ r, (feed hs c.cont (q, s.store) c.resps).1.1.found = some r ∧ res = .ret r.fid) := by
  unfold afterMiss
  cases hp : prepare s.chain c.target c.batch c.maxBatch with
  | error e => exact Or.inl ⟨⟨e, rfl⟩, rfl⟩
  | ok q =>
    refine Or.inr ⟨q, ?_⟩
    cases hv : c.verdict with
    | quit => exact ⟨_, _, rfl, rfl, Or.inl rfl⟩
    | err => exact ⟨_, _, rfl, rfl, Or.inl rfl⟩
    | nil =>
      cases hf : (feed hs c.cont (q, s.store) c.resps).1.1.found with
      | none => exact ⟨.errFetchFailed, .nowhere, rfl, by simp only [hf], Or.inl rfl⟩
      | some r => exact ⟨.ret r.fid, .network, rfl, by simp only [hf], Or.inr ⟨rfl, r, rfl, rfl⟩⟩

theorem afterMiss_chain (hs : Hashing) (s : State) (c : Call) : (afterMiss hs s c).st.chain = s.chain := by
  rcases afterMiss_shape hs s c with ⟨_, he⟩ | ⟨_, _, _, _, he, _⟩ <;> rw [he]

theorem getCFilter_chain (hs : Hashing) (s : State) (c : Call) : (getCFilter hs s c).st.chain = s.chain := by
  rcases getCFilter_cases hs s c with ⟨_, he⟩ | ⟨_, _, _, he⟩ | ⟨_, _, _, he⟩ | ⟨_, _, he⟩ <;> rw [he]
  exact afterMiss_chain hs s c

theorem afterMiss_ok (hs : Hashing) (s : State) (c : Call) (hne : 1 ≤ s.chain.fhs.length)
    (hst : StoreOk hs s.chain.fhs s.store) :
    StoreOk hs s.chain.fhs (afterMiss hs s c).st.store ∧
    (∀ fid, (afterMiss hs s c).result = .ret fid → Good hs s.chain.fhs c.target fid) := by
  rcases afterMiss_shape hs s c with ⟨_, he⟩ | ⟨q, res, _, hp, he, hres⟩ <;> rw [he]
  · exact ⟨hst, nofun⟩
  · obtain ⟨_, h0, rfl⟩ := prepare_ok_iff.mp hp
    obtain ⟨h1, h2⟩ := rangeOf_bounds c.target s.chain.best c.batch c.maxBatch
    obtain ⟨g1, g2, g3⟩ := feed_ok hs s.chain.fhs c.cont c.resps (_, s.store)
      ⟨queryOf_aligned s.chain c.target h1 h2 h0 hne, nofun⟩ hst
    refine ⟨g2, fun fid (h : res = .ret fid) => ?_⟩
    subst h
    rcases hres with hr | ⟨_, r, hf, hr⟩ <;> cases hr
    obtain ⟨hb, hg⟩ := g1.2 r hf
    exact (hb.trans g3 : r.blk = c.target) ▸ hg

theorem getCFilter_ok (hs : Hashing) (s : State) (c : Call) (hne : 1 ≤ s.chain.fhs.length)
    (hst : StoreOk hs s.chain.fhs s.store) :
    StoreOk hs s.chain.fhs (getCFilter hs s c).st.store ∧
    (∀ fid, (getCFilter hs s c).result = .ret fid → Good hs s.chain.fhs c.target fid) := by
  rcases getCFilter_cases hs s c with ⟨_, he⟩ | ⟨e, hmem, hk, he⟩ | ⟨_, fid, hl, he⟩ | ⟨_, _, he⟩ <;> rw [he]
  · exact ⟨hst, nofun⟩
  · exact ⟨⟨fun e' h => hst.1 e' (GetBlock.mem_erase_append hmem h), hst.2⟩, fun _ h => by
      cases h; exact hk ▸ hst.1 e hmem⟩
  · exact ⟨hst, fun _ h => by cases h; exact hst.2 (c.target, fid) (lookup_mem hl)⟩
  · exact afterMiss_ok hs s c hne hst

theorem netBranch_eq (hs : Hashing) (s : State) (c : Call) : netBranch hs s c = afterMiss hs s c := rfl

theorem mem_dbCommit : ∀ (ws db : List (Nat × Nat)) (p : Nat × Nat), p ∈ dbCommit db ws → p ∈ db ∨ p ∈ ws := by
  intro ws
  induction ws with
  | nil => exact fun _ _ h => Or.inl h
  | cons w ws ih =>
    intro db p h
    rcases ih _ p h with h1 | h1
    · exact (mem_dbPut h1).symm.imp_right fun h2 => by rw [h2]; exact List.mem_cons_self
    · exact Or.inr (List.mem_cons_of_mem _ h1)

/-- decoded inside the read transaction, the value is the snapshot's, whatever is committed afterwards -/
theorem dbFetch_inTx (g : Nat → Nat) (db ws : List (Nat × Nat)) (k : Nat) : dbFetch true g db ws k = lookup db k := by
  unfold dbFetch
  cases lookup db k <;> rfl

theorem goodB_iff (hs : Hashing) (fhs : List Nat) (b f : Nat) : goodB hs fhs b f = true ↔ Good hs fhs b f := by
  simp only [goodB, Good, Bool.and_eq_true, decide_eq_true_eq, beq_iff_eq, and_assoc]

theorem getCFilterW_ok (g : Nat → Nat) (hs : Hashing) (s : State) (c : Call) (ws : List (Nat × Nat))
    (hne : 1 ≤ s.chain.fhs.length) (hst : StoreOk hs s.chain.fhs s.store)
    (hws : ∀ p ∈ ws, Good hs s.chain.fhs p.1 p.2) :
    StoreOk hs s.chain.fhs (getCFilterW true g hs s c ws).st.store ∧
    (∀ fid, (getCFilterW true g hs s c ws).result = .ret fid → Good hs s.chain.fhs c.target fid) ∧
    (getCFilterW true g hs s c ws).st.chain = s.chain := by
  unfold getCFilterW
  cases hreg : c.regular with
  | false => exact ⟨hst, nofun, rfl⟩
  | true =>
    simp only [Bool.true_eq_false, ↓reduceIte, dbFetch_inTx, netBranch_eq]
    rcases GetBlock.spec_get s.store.cache c.target with ⟨e, hmem, hk, heq⟩ | ⟨_, heq⟩ <;> rw [heq]
    · exact ⟨⟨fun e' h => hst.1 e' (GetBlock.mem_erase_append hmem h), hst.2⟩, fun _ h => by
        cases h; exact hk ▸ hst.1 e hmem, rfl⟩
    · have hst1 : StoreOk hs s.chain.fhs { s.store with db := dbCommit s.store.db ws } :=
        ⟨hst.1, fun q hq => (mem_dbCommit ws s.store.db q hq).elim (hst.2 q) (hws q)⟩
      cases hl : lookup s.store.db c.target with
      | some fid => exact ⟨hst1, fun _ h => by cases h; exact hst.2 (c.target, fid) (lookup_mem hl), rfl⟩
      | none =>
        have h := afterMiss_ok hs { s with store := { s.store with db := dbCommit s.store.db ws } } c hne hst1
        exact ⟨h.1, h.2, afterMiss_chain hs _ c⟩

theorem cacheFillChecked_ok (hs : Hashing) (fhs : List Nat) :
    ∀ (kvs : List (Nat × Nat × Nat)) (st : Store), (∀ e ∈ st.cache.items, Good hs fhs e.key e.vid) →
      ∀ e ∈ (cacheFillChecked hs fhs st kvs).cache.items, Good hs fhs e.key e.vid := by
  intro kvs
  induction kvs with
  | nil => exact fun _ h => h
  | cons x rest ih =>
    intro st h
    refine ih _ ?_
    split
    · next hg => exact cachePut_ok hs fhs st _ _ _ h ((goodB_iff hs fhs _ _).mp hg)
    · exact h

theorem cacheFillChecked_db (hs : Hashing) (fhs : List Nat) :
    ∀ (kvs : List (Nat × Nat × Nat)) (st : Store), (cacheFillChecked hs fhs st kvs).db = st.db := by
  intro kvs
  induction kvs with
  | nil => exact fun _ => rfl
  | cons x rest ih =>
    intro st
    refine (ih _).trans ?_
    split <;> rfl

/-- the headers a `recommit` installs leave every stored filter's pair of
committed headers as it was -/
def stableB (s : State) (newfhs : List Nat) : Bool :=
  (s.store.cache.items.all (fun e => decide (e.key < newfhs.length) && newfhs.getD e.key 0 == s.chain.fhs.getD e.key 0 &&
      newfhs.getD (e.key - 1) 0 == s.chain.fhs.getD (e.key - 1) 0)) &&
  (s.store.db.all (fun p => decide (p.1 < newfhs.length) && newfhs.getD p.1 0 == s.chain.fhs.getD p.1 0 &&
      newfhs.getD (p.1 - 1) 0 == s.chain.fhs.getD (p.1 - 1) 0)) &&
  decide (1 ≤ newfhs.length)

/-- every `recommit` of the history is stable in the above sense -/
def opsStable (hs : Hashing) : State → List Op → Bool
  | _, [] => true
  | s, .recommit h nf :: os => stableB s (s.chain.fhs.take h ++ nf) && opsStable hs (step hs s (.recommit h nf)) os
  -- concurrent writers (the batch writer) persist filters that match the committed headers
  | s, .getW c ws :: os => ws.all (fun p => goodB hs s.chain.fhs p.1 p.2) && opsStable hs (step hs s (.getW c ws)) os
  | s, o :: os => opsStable hs (step hs s o) os

def Inv (hs : Hashing) (s : State) : Prop := 1 ≤ s.chain.fhs.length ∧ StoreOk hs s.chain.fhs s.store

theorem Good.stable {hs : Hashing} {fhs nf : List Nat} {b f : Nat} (h : Good hs fhs b f)
    (hn : (b < nf.length ∧ nf.getD b 0 = fhs.getD b 0) ∧ nf.getD (b - 1) 0 = fhs.getD (b - 1) 0) :
    Good hs nf b f :=
  ⟨h.1, hn.1.1, by rw [hn.1.2, hn.2]; exact h.2.2⟩

theorem step_inv (hs : Hashing) (s : State) (o : Op) (os : List Op) (h : Inv hs s)
    (hst : opsStable hs s (o :: os) = true) : Inv hs (step hs s o) ∧ opsStable hs (step hs s o) os = true := by
  cases o with
  | get c =>
    refine ⟨?_, hst⟩
    rw [step, Inv, getCFilter_chain]
    exact ⟨h.1, (getCFilter_ok hs s c h.1 h.2).1⟩
  | getW c ws =>
    simp only [opsStable, Bool.and_eq_true, List.all_eq_true] at hst
    obtain ⟨g1, _, g3⟩ := getCFilterW_ok id hs s c ws h.1 h.2 fun p hp => (goodB_iff hs _ _ _).mp (hst.1 p hp)
    refine ⟨?_, hst.2⟩
    rw [step, Inv, g3]
    exact ⟨h.1, g1⟩
  | restart => exact ⟨⟨h.1, nofun, h.2.2⟩, hst⟩
  | recommit hh nf =>
    simp only [opsStable, stableB, Bool.and_eq_true, List.all_eq_true, decide_eq_true_eq, beq_iff_eq] at hst
    obtain ⟨⟨⟨hc, hd⟩, hlen⟩, hrest⟩ := hst
    exact ⟨⟨hlen, fun e he => (h.2.1 e he).stable (hc e he), fun p hp => (h.2.2 p hp).stable (hd p hp)⟩, hrest⟩

theorem run_inv (hs : Hashing) (ops : List Op) : ∀ (s : State), Inv hs s → opsStable hs s ops = true → Inv hs (run hs s ops) := by
  induction ops with
  | nil => exact fun _ h _ => h
  | cons o os ih =>
    intro s h hst
    obtain ⟨h1, h2⟩ := step_inv hs s o os h hst
    exact ih _ h1 h2

theorem init_inv (hs : Hashing) (cap tip : Nat) (fhs : List Nat) (persist : Bool) (h : 1 ≤ fhs.length) :
    Inv hs (init cap tip fhs persist) :=
  ⟨h, nofun, nofun⟩

/-- what is remembered of earlier range reads agrees with the file -/
def FHStore.Coh (s : FHStore) : Prop := ∀ p ∈ s.mem, s.file[p.1]? = some p.2

theorem coh_readRange (s : FHStore) (lo n : Nat) (h : s.Coh) : (s.readRange lo n).1.Coh := by
  unfold FHStore.readRange
  simp only
  split
  · exact h
  · intro p hp
    simp only [List.mem_filterMap, Option.map_eq_some_iff] at hp
    obtain ⟨x, _, v, hv, rfl⟩ := hp
    exact hv

theorem coh_step (s : FHStore) (o : FHOp) (h : s.Coh) : (fhStep false s o).Coh := by
  cases o with
  | write hs =>
    exact fun p hp => (List.getElem?_append_left (List.getElem?_eq_some_iff.mp (h p hp)).1).trans (h p hp)
  | rollback =>
    unfold fhStep
    by_cases hle : s.file.length ≤ 1
    · simp only [hle, ↓reduceIte]; exact h
    · simp only [hle, ↓reduceIte]
      intro p hp
      simp only [List.mem_filter, decide_eq_true_eq, Bool.false_eq_true, ↓reduceIte] at hp
      have hf := h p hp.1
      show s.file.dropLast[p.1]? = some p.2
      rw [List.getElem?_dropLast]
      rw [if_pos (Nat.lt_of_le_of_lt hp.2 (Nat.sub_lt_sub_left (Nat.not_le.mp hle) (by decide)))]
      exact hf
  | readRange lo n => exact coh_readRange s lo n h

theorem coh_run (ops : List FHOp) (s : FHStore) (h : s.Coh) : (fhRun false s ops).Coh := by
  induction ops generalizing s with
  | nil => exact h
  | cons o os ih => exact ih _ (coh_step s o h)

theorem readRange_eq_at (s : FHStore) (lo n : Nat) (h : s.Coh) :
    (s.readRange lo n).2 = (List.range' lo n).map s.at? := by
  unfold FHStore.readRange
  simp only
  split
  · rename_i hall
    apply List.map_congr_left
    intro x hx
    have := List.all_eq_true.mp hall x hx
    cases hl : lookup s.mem x with
    | none => simp [hl] at this
    | some v => exact (h _ (lookup_mem hl)).symm
  · rfl

def Stores.Ok (gen : Nat → Nat) (s : Stores) : Prop :=
  (∀ n f, lookup s.dbs n = some f → f = gen n) ∧ (∀ p ∈ s.memo, p.2 = gen p.1)

theorem open_ok (gen : Nat → Nat) (s : Stores) (net : Nat) (h : s.Ok gen) :
    (openStore gen id s net).Ok gen ∧ genesisGet (openStore gen id s net) net = some (gen net) := by
  -- either way the network's database gets `gen net`
  have put : ∀ n f, lookup (dbPut s.dbs net (gen net)) n = some f → f = gen n := fun n f hl => by
    by_cases hn : n = net
    · subst hn; rw [lookup_dbPut_self] at hl; exact (Option.some.inj hl).symm
    · rw [lookup_dbPut_other _ _ _ _ hn] at hl; exact h.1 n f hl
  unfold openStore
  cases hm : lookup s.memo (id net) with
  | some f =>
    obtain rfl : f = gen net := h.2 _ (lookup_mem hm)
    exact ⟨⟨put, h.2⟩, lookup_dbPut_self _ _ _⟩
  | none =>
    exact ⟨⟨put, fun p hp => (List.mem_cons.mp hp).elim (fun e => e ▸ rfl) (h.2 p)⟩, lookup_dbPut_self _ _ _⟩

theorem openAll_ok (gen : Nat → Nat) (nets : List Nat) (s : Stores) (h : s.Ok gen) :
    (openAll gen id s nets).Ok gen := by
  induction nets generalizing s with
  | nil => exact h
  | cons n ns ih => exact ih _ (open_ok gen s n h).1

theorem empty_ok (gen : Nat → Nat) : ({} : Stores).Ok gen := ⟨nofun, nofun⟩

end Neutrino.GetCFilter
