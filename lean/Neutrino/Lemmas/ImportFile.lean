/-
The byte-level facts the file side of C14 needs: the little-endian 32-bit round trip, where chunk `i` of a
flattened body of equal chunks sits, the `uint32` decrement, and what `decode` accepts.
-/
import Neutrino.Model.ImportFile
namespace Neutrino.ImportFile

theorem toNat_ofNat_mod (k : Nat) : (UInt8.ofNat (k % 256)).toNat = k % 256 := by
  simp [UInt8.toNat_ofNat']

theorem le32_length (n : Nat) : (le32 n).length = 4 := rfl

/-- the four base-256 digits of a 32-bit number recompose it (`n = n % 256 + 256 * (n / 256)`, three times) -/
theorem digits256 (n : Nat) (h : n < two32) :
    n % 256 + 256 * (n / 256 % 256) + 65536 * (n / 65536 % 256) + 16777216 * (n / 16777216 % 256) = n := by
  rw [Nat.mod_eq_of_lt (Nat.div_lt_of_lt_mul h : n / 16777216 < 256),
    show n / 65536 = n / 256 / 256 from (Nat.div_div_eq_div_mul n 256 256).symm,
    show n / 16777216 = n / 256 / 256 / 256 by rw [Nat.div_div_eq_div_mul, Nat.div_div_eq_div_mul]]
  conv => rhs; rw [← Nat.mod_add_div n 256, ← Nat.mod_add_div (n / 256) 256, ← Nat.mod_add_div (n / 256 / 256) 256]
  simp only [Nat.mul_add, ← Nat.mul_assoc, Nat.reduceMul, Nat.add_assoc]

/-- reading back what was written (little endian, 32 bits) -/
theorem rd32_le32 (n : Nat) (h : n < two32) (rest : Bytes) : rd32 (le32 n ++ rest) = some (n, rest) := by
  unfold le32 rd32
  simp only [List.cons_append, List.nil_append, toNat_ofNat_mod, digits256 n h]

theorem rd8_byte (k : Nat) (h : k < 256) (rest : Bytes) : rd8 (UInt8.ofNat k :: rest) = some (k, rest) := by
  unfold rd8
  have : (UInt8.ofNat k).toNat = k := Nat.mod_eq_of_lt h ▸ toNat_ofNat_mod k
  simp [this]

theorem encodeMeta_length (m : Meta) : (encodeMeta m).length = 10 := by
  simp [encodeMeta, le32_length]

/-- a list of equally long chunks, flattened: chunk `i` sits at offset `i * sz` -/
theorem chunk_at (sz : Nat) (L : List Bytes) (hL : ∀ c ∈ L, c.length = sz) (i : Nat) (hi : i < L.length) :
    (L.flatten.drop (i * sz)).take sz = L[i] := by
  induction L generalizing i with
  | nil => simp at hi
  | cons c cs ih =>
    have hc : c.length = sz := hL c (by simp)
    cases i with
    | zero => rw [Nat.zero_mul, List.drop_zero, List.flatten_cons, List.getElem_cons_zero, ← hc, List.take_left]
    | succ j =>
      have : (j + 1) * sz = c.length + j * sz := by rw [hc, Nat.succ_mul, Nat.add_comm]
      rw [List.flatten_cons, List.getElem_cons_succ, this, List.drop_length_add_append]
      exact ih (fun d hd => hL d (List.mem_cons_of_mem _ hd)) j (Nat.lt_of_succ_lt_succ hi)

theorem flatten_length (sz : Nat) (L : List Bytes) (hL : ∀ c ∈ L, c.length = sz) : L.flatten.length = L.length * sz := by
  induction L with
  | nil => simp
  | cons c cs ih =>
    rw [List.flatten_cons, List.length_append, List.length_cons, ih fun d hd => hL d (List.mem_cons_of_mem _ hd),
      hL c (by simp), Nat.succ_mul, Nat.add_comm]

/-- the file body starts right behind the metadata -/
theorem encodeFile_drop (m : Meta) (hdrs : List Bytes) (k : Nat) :
    (encodeFile m hdrs).drop (metaSize + k) = hdrs.flatten.drop k := by
  rw [encodeFile, show metaSize = (encodeMeta m).length from (encodeMeta_length m).symm, List.drop_length_add_append]

theorem encodeFile_length (m : Meta) (sz : Nat) (hdrs : List Bytes) (hL : ∀ c ∈ hdrs, c.length = sz) :
    (encodeFile m hdrs).length = metaSize + hdrs.length * sz := by
  rw [encodeFile, List.length_append, encodeMeta_length, flatten_length sz hdrs hL]; rfl

theorem headerSize_pos {t sz : Nat} (h : headerSize t = some sz) : 0 < sz := by
  unfold headerSize at h
  split at h <;> cases h <;> decide

theorem two32_pos : 0 < two32 := by decide

/-- decrement on `uint32` as the code writes it (`+ 2^32 - 1`) -/
theorem pred_two32 {a : Nat} (h0 : 0 < a) (h : a < two32) : (a + (two32 - 1)) % two32 = a - 1 := by
  obtain ⟨b, rfl⟩ : ∃ b, a = b + 1 := ⟨a - 1, (Nat.sub_add_cancel h0).symm⟩
  rw [Nat.add_assoc, Nat.add_sub_of_le two32_pos, Nat.add_mod_right, Nat.mod_eq_of_lt (Nat.lt_of_succ_lt h),
    Nat.add_sub_cancel]

theorem rd32_length {bs r : Bytes} {v : Nat} (h : rd32 bs = some (v, r)) : bs.length = r.length + 4 := by
  unfold rd32 at h
  split at h
  · cases h; rfl
  · cases h

theorem rd8_length {bs r : Bytes} {v : Nat} (h : rd8 bs = some (v, r)) : bs.length = r.length + 1 := by
  unfold rd8 at h
  split at h
  · cases h; rfl
  · cases h

/-- `decode` fails for want of bytes or on the version; what it accepts has version 0 and consumed ten bytes -/
theorem decodeMeta_cases (bs : Bytes) :
    decodeMeta bs = .error .short ∨ decodeMeta bs = .error .version ∨
    ∃ m rest, decodeMeta bs = .ok (m, rest) ∧ m.version = 0 ∧ bs.length = rest.length + metaSize := by
  unfold decodeMeta
  cases h1 : rd32 bs with
  | none => exact Or.inl rfl
  | some p1 =>
    obtain ⟨magic, r1⟩ := p1
    dsimp only
    cases h2 : rd8 r1 with
    | none => exact Or.inl rfl
    | some p2 =>
      obtain ⟨ver, r2⟩ := p2
      dsimp only
      by_cases hv : ver ≠ 0
      · exact Or.inr (Or.inl (if_pos hv))
      · simp only [hv, ↓reduceIte]
        cases h3 : rd8 r2 with
        | none => exact Or.inl rfl
        | some p3 =>
          obtain ⟨typ, r3⟩ := p3
          dsimp only
          cases h4 : rd32 r3 with
          | none => exact Or.inl rfl
          | some p4 =>
            obtain ⟨start, r4⟩ := p4
            refine Or.inr (Or.inr ⟨_, _, rfl, Decidable.not_not.mp hv, ?_⟩)
            rw [rd32_length h1, rd8_length h2, rd8_length h3, rd32_length h4]
            rfl

end Neutrino.ImportFile
