/- Lemmas for the `getheaders` answer model Neutrino/Model/Locator.lean. -/
import Neutrino.Model.Locator
namespace Neutrino.Locator

theorem startOf_of_firstOn {loc : List (Option Nat)} {a : Nat} (h : firstOn loc = some a) :
    startOf loc = a + 1 := by
  rw [startOf_firstOn, h]

theorem count_of_firstOn {loc : List (Option Nat)} {a : Nat} (batch ph : Nat) (hfirst : firstOn loc = some a) :
    count batch ph (startOf loc) = min batch (ph - a) := by
  rw [count, startOf_of_firstOn hfirst, Nat.add_sub_add_right]

/-- the answer covers the heights `a + 1 … a + min batch (ph - a)`; those above the fork point are new -/
theorem newCount_of_firstOn {loc : List (Option Nat)} {a fork : Nat} (batch ph : Nat)
    (hfirst : firstOn loc = some a) (ha : a ≤ fork) :
    newCount batch ph fork loc = a + min batch (ph - a) - fork := by
  rw [newCount, count_of_firstOn batch ph hfirst, startOf_of_firstOn hfirst,
    Nat.max_eq_left (Nat.succ_le_succ ha), Nat.add_right_comm, Nat.add_sub_add_right]

theorem newCount_of_firstOn_none {loc : List (Option Nat)} (batch ph fork : Nat) (hoff : firstOn loc = none) :
    newCount batch ph fork loc = min batch ph - fork := by
  have hs : startOf loc = 1 := by rw [startOf_firstOn, hoff]
  rw [newCount, count, hs, Nat.add_sub_cancel, Nat.max_eq_left (Nat.succ_le_succ (Nat.zero_le _)),
    Nat.add_comm, Nat.add_sub_add_right]

end Neutrino.Locator
