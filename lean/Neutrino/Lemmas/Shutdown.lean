/- Lemmas for C17 (model: Neutrino/Model/Shutdown.lean): what holds of every site table. -/
import Neutrino.Model.Shutdown
namespace Neutrino

theorem length_filter_cons_toNat {α} (p : α → Bool) (x : α) (l : List α) :
    ((x :: l).filter p).length = (l.filter p).length + (p x).toNat := by
  rw [List.filter_cons]; cases p x <;> rfl

/-- Sorting every element under the first of the tests `a`, `b`, `c` it passes, or under "none" (`!ok`),
counts each element exactly once: the four classes partition any list. -/
theorem length_filter_first_of_three {α} (a b c ok : α → Bool) (h : ∀ x, ok x = (a x || b x || c x))
    (l : List α) :
    (l.filter a).length + (l.filter fun x => !a x && b x).length
      + (l.filter fun x => !a x && !b x && c x).length
      + (l.filter fun x => !ok x).length = l.length := by
  induction l with
  | nil => rfl
  | cons x l ih =>
    have one : (a x).toNat + (!a x && b x).toNat + (!a x && !b x && c x).toNat + (!ok x).toNat = 1 := by
      rw [h x]; cases a x <;> cases b x <;> cases c x <;> rfl
    simp only [length_filter_cons_toNat, List.length_cons]
    omega

theorem contains_cons_unless {α} [BEq α] [LawfulBEq α] (x : α) (l : List α) :
    (if !l.contains x then x :: l else l).contains x = true := by
  cases h : l.contains x
  · rw [Bool.not_false, if_pos rfl, List.contains_cons, beq_self_eq_true, Bool.true_or]
  · rw [Bool.not_true, if_neg Bool.false_ne_true, h]

theorem Shutdown.waitedBy_onWorker (fn recv : Nat) (h : Shutdown.onWorker fn = true) :
    (Shutdown.waitedBy fn recv).contains "workManager" = true := by
  rw [Shutdown.waitedBy, h, Bool.true_and]
  exact contains_cons_unless _ _

end Neutrino
