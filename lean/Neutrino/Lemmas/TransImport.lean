/-
The region arithmetic the CODE defines (Gen/TransImport.lean, regenerated from
chainimport/headers_import.go and utils.go on every run) is the model's `Import.regions`.
-/
import Neutrino.Gen.TransImport
import Neutrino.Model.Import
namespace Neutrino.Import
open Neutrino.Gen.TransImport Neutrino.GoInt

/-- `verifyMode` values as the model's `Verify` (named through the regenerated constants, so that
renumbering the Go `const` block is harmless) -/
def absVerify (n : Nat) : Verify :=
  if n = K_chainimport_verifyBlockOnly then .blockOnly
  else if n = K_chainimport_verifyFilterOnly then .filterOnly
  else .both

def absMode (n : Nat) : Mode :=
  if n = K_chainimport_appendBlockOnly then .blockOnly
  else if n = K_chainimport_appendFilterOnly then .filterOnly
  else .both

def absRegion (r : T_chainimport_headerRegion) : Region :=
  { start := r.start, stop := r.«end», «exists» := r.«exists»,
    verify := absVerify r.syncModes.verify, mode := absMode r.syncModes.append }

/-- the enum members are pairwise distinct (what `absVerify` / `absMode` rest on) -/
theorem trans_modes_distinct :
    K_chainimport_verifyBlockAndFilter ≠ K_chainimport_verifyBlockOnly ∧
    K_chainimport_verifyBlockAndFilter ≠ K_chainimport_verifyFilterOnly ∧
    K_chainimport_verifyBlockOnly ≠ K_chainimport_verifyFilterOnly ∧
    K_chainimport_appendBlockAndFilter ≠ K_chainimport_appendBlockOnly ∧
    K_chainimport_appendBlockAndFilter ≠ K_chainimport_appendFilterOnly ∧
    K_chainimport_appendBlockOnly ≠ K_chainimport_appendFilterOnly := by decide

/-- whatever is read off the result of `determineDivergenceSyncModes`, by cases on which tip leads -/
theorem syncModes_cases {α : Type} (g : T_chainimport_syncModes → α) (b f : Nat) :
    g (determineDivergenceSyncModes b f) = if b > f then g ⟨1, 2⟩ else if b < f then g ⟨2, 1⟩ else g ⟨0, 0⟩ := by
  unfold determineDivergenceSyncModes
  -- whichever comparison the code makes first
  by_cases h1 : f < b
  · have h2 := Nat.lt_asymm h1
    simp only [*, ↓reduceIte]
  · by_cases h2 : b < f <;> simp only [*, ↓reduceIte]

/-- **`determineDivergenceSyncModes`**: which store is verified -/
theorem trans_syncModes_verify (b f : Nat) :
    absVerify (determineDivergenceSyncModes b f).verify
      = (if b > f then Verify.blockOnly else if b < f then Verify.filterOnly else Verify.both) :=
  syncModes_cases (fun s => absVerify s.verify) b f

/-- `a + 1` on `uint32` does not wrap below a tip that has a successor -/
theorem uadd_one_of_le {a b : Nat} (h : a ≤ b) (hb : b + 1 < 2 ^ 32) : uadd 32 a 1 = a + 1 :=
  uadd_of_lt (Nat.lt_of_le_of_lt (Nat.succ_le_succ h) hb)

/-- **the code's `determineProcessingRegions` computes the model's `regions`**: when the three
lookups succeed (metadata `md`, block tip `b`, filter tip `f`, both tips below 2^32 - 1 so that
`tip + 1` does not wrap) the result is non-nil, error-free, records the import range and the
effective tip, and its two regions are `Import.regions` of any file with that end height. -/
theorem trans_regions (md : T_chainimport_headerMetadata) (bh : Option T_wire_BlockHeader) (fh : Atom) (b f : Nat)
    (hb : b + 1 < 2 ^ 32) (hf : f + 1 < 2 ^ 32) (F : File) (hF : endHeight F = md.endHeight) :
    ∃ R, determineProcessingRegions (some md, false) (bh, b, false) (fh, f, false) = (some R, false) ∧
      R.importStartHeight = (deref md.importMetadata).startHeight ∧ R.importEndHeight = md.endHeight ∧
      R.effectiveTip = min b f ∧
      (absRegion R.divergence, absRegion R.newHeaders) = regions F b f := by
  have h1 : uadd 32 (min b f) 1 = min b f + 1 := uadd_one_of_le (Nat.min_le_left b f) hb
  have h2 : uadd 32 (max b f) 1 = max b f + 1 := by
    rw [Nat.max_def]; split
    · exact uadd_of_lt hf
    · exact uadd_of_lt hb
  refine ⟨_, rfl, rfl, rfl, rfl, ?_⟩
  simp only [deref_some, absRegion, regions, hF, h1, h2, Bool.decide_and, trans_syncModes_verify,
    syncModes_cases (fun s => absMode s.append), apply_ite Prod.fst, apply_ite Prod.snd]
  rfl

/-- **`validateChainContinuity` as the code spells it is the model's `continuity`** (error ⇔ `some _`):
with the metadata of file `F`, the chain tips of the stores `st`, `validateHeaderConnection` answering
as the model's `connects` and `verifyHeadersAtTargetHeight` as the model's `verifyAt … both`, for tips
below 2^32 - 1.  A failing metadata / chain-tip lookup is an error on both sides. -/
theorem trans_continuity (F : File) (st : Stores) (md : T_chainimport_headerMetadata) (im : T_chainimport_importMetadata)
    (bh : Option T_wire_BlockHeader) (fh : Atom) (b f : Nat)
    (hmd : md.importMetadata = some im) (hs : im.startHeight = F.bstart) (he : md.endHeight = endHeight F)
    (hb : bChainTip st = some b) (hf : fChainTip st = some f) (hb32 : b + 1 < 2 ^ 32) (hf32 : f + 1 < 2 ^ 32) :
    validateChainContinuity (some md, false) (bh, b, false) (fh, f, false)
        (fun s t _ => !connects F st s t) (fun h _ => !verifyAt F st .both h)
      = (continuity F st).isSome := by
  have h1 : uadd 32 (min b f) 1 = min b f + 1 := uadd_one_of_le (Nat.min_le_right b f) hf32
  have h2 : uadd 32 (min (min b f) (endHeight F)) 1 = min (min b f) (endHeight F) + 1 :=
    uadd_one_of_le (Nat.le_trans (Nat.min_le_left _ _) (Nat.min_le_left b f)) hb32
  -- both sides become decision trees over the same four comparisons and four checks
  simp only [validateChainContinuity, validateChainContinuity_k1, continuity, hb, hf, deref_some, hmd, hs, he, h1, h2,
    gt_iff_lt, ↓reduceIte]
  by_cases c1 : min b f + 1 < F.bstart
  · simp only [c1, ↓reduceIte, Option.isSome_some]
  by_cases c2 : min b f < F.bstart
  · simp only [c1, c2, ↓reduceIte]
    cases connects F st F.bstart b <;> rfl
  simp only [c1, c2, ↓reduceIte]
  cases verifyAt F st .both F.bstart
  · rfl
  by_cases c3 : F.bstart < min (min b f) (endHeight F) <;> by_cases c4 : min (min b f) (endHeight F) < endHeight F <;>
    simp only [c3, c4, ↓reduceIte, Bool.not_true, decide_true, decide_false, Bool.true_and, Bool.false_and,
      Bool.false_eq_true]
  all_goals
    cases verifyAt F st .both (min (min b f) (endHeight F)) <;>
      cases connects F st (min (min b f) (endHeight F) + 1) b <;> rfl

/-- three error flags tested in turn, each ending the computation with the same answer: the first that is set does -/
theorem first_flag_set {α : Type} {e1 e2 e3 : Bool} {x y : α} (h : e1 = true ∨ e2 = true ∨ e3 = true) :
    (if e1 = false then (if e2 = false then (if e3 = false then x else y) else y) else y) = y := by
  cases e1
  · cases e2
    · cases e3
      · simp at h
      · rfl
    · rfl
  · rfl

/-- **`targetHeightToImportSourceIndex`** is the model's `h - F.bstart` whenever the target height
is inside the file; below the file's start it wraps around (the code has no guard) -/
theorem trans_sourceIndex (h s : Nat) (hs : s ≤ h) : targetHeightToImportSourceIndex h s = h - s :=
  usub_of_le hs

theorem trans_sourceIndex_wraps (h s : Nat) (hs : h < s) (h32 : s ≤ 2 ^ 32) :
    targetHeightToImportSourceIndex h s = h + 2 ^ 32 - s := usub_of_lt hs h32

end Neutrino.Import
