/-
Conservation of requests in the UTXO scanner model: every request that entered is, at every moment, in exactly one of
queue / next batch / reporter / delivered.  Stated by counting (`List.count`), converted to `List.Perm` at the end.
-/
import Neutrino.Lemmas.Utxo
namespace Neutrino.Utxo

def entReqs (ents : List Entry) : List Req := ents.flatMap (·.reqs)

/-- every place a request can be -/
def holds (st : St) : List Req :=
  st.pq ++ st.next ++ entReqs st.ents ++ st.out.map (·.req)

@[simp] theorem entReqs_nil : entReqs [] = [] := rfl
@[simp] theorem entReqs_cons (e : Entry) (es : List Entry) : entReqs (e :: es) = e.reqs ++ entReqs es := by
  simp only [entReqs, List.flatMap_cons]

theorem map_req_mk (r : Res) (u : Nat) :
    ∀ l : List Req, (l.map (fun q => (⟨q, r, u⟩ : Deliv))).map (·.req) = l
  | [] => rfl
  | a :: l => by simp only [List.map_cons, map_req_mk r u l]

theorem flatMap_req (f : Entry → Res) (u : Nat) :
    ∀ ents : List Entry, (ents.flatMap (fun e => e.reqs.map (fun q => (⟨q, f e, u⟩ : Deliv)))).map (·.req) = entReqs ents
  | [] => rfl
  | e :: es => by
    simp only [List.flatMap_cons, List.map_append, entReqs_cons, flatMap_req f u es, map_req_mk]

theorem notifyUnspent_req (u : Nat) (ents : List Entry) : (notifyUnspent ents u).map (·.req) = entReqs ents :=
  flatMap_req (fun e => .ok e.init) u ents

theorem failAll_req (er : Err) (u : Nat) (ents : List Entry) : (failAll ents er u).map (·.req) = entReqs ents :=
  flatMap_req (fun _ => .err er) u ents

theorem failNew_req (er : Err) (u : Nat) (new : List Req) : (failNew new er u).map (·.req) = new :=
  map_req_mk (.err er) u new

theorem count_filter_ite (p : Req → Bool) (q : Req) (l : List Req) :
    List.count q (l.filter p) = if p q = true then List.count q l else 0 := by
  by_cases hp : p q = true
  · simp only [hp, ↓reduceIte]; exact List.count_filter hp
  · simp only [hp]
    exact List.count_eq_zero.2 (fun hm => hp (List.mem_filter.1 hm).2)

theorem count_filter3 (q : Req) (h : Nat) (l : List Req) :
    List.count q l =
      List.count q (l.filter (fun q => q.birth < h)) + List.count q (l.filter (fun q => q.birth == h))
        + List.count q (l.filter (fun q => h < q.birth)) := by
  rw [count_filter_ite, count_filter_ite, count_filter_ite]
  simp only [decide_eq_true_eq, beq_iff_eq]
  rcases Nat.lt_trichotomy q.birth h with hlt | heq | hgt
  · rw [if_pos hlt, if_neg (Nat.ne_of_lt hlt), if_neg (Nat.lt_asymm hlt)]; rfl
  · rw [if_neg (heq ▸ Nat.lt_irrefl _), if_pos heq, if_neg (heq ▸ Nat.lt_irrefl _), Nat.zero_add]; rfl
  · rw [if_neg (Nat.lt_asymm hgt), if_neg (Nat.ne_of_gt hgt), if_pos hgt, Nat.zero_add]

theorem joinReq_count (q : Req) (blk : Block) (h : Nat) (r : Req) :
    ∀ ents : List Entry,
      List.count q (entReqs (joinReq blk h ents r)) = List.count q (entReqs ents) + List.count q [r]
  | [] => by
    simp only [joinReq, entReqs_cons, entReqs_nil, List.append_nil, List.count_nil, Nat.zero_add]
  | e :: es => by
    by_cases hop : e.op = r.op
    · rw [joinReq_cons_eq hop]
      simp only [entReqs_cons, List.count_append]
      exact Nat.add_right_comm ..
    · rw [joinReq_cons_ne hop]
      simp only [entReqs_cons, List.count_append, joinReq_count q blk h r es, Nat.add_assoc]

theorem addNew_count (q : Req) (blk : Block) (h : Nat) :
    ∀ (new : List Req) (ents : List Entry),
      List.count q (entReqs (addNew blk h ents new)) = List.count q (entReqs ents) + List.count q new
  | [], _ => rfl
  | r :: rs, ents => by
    show List.count q (entReqs (addNew blk h (joinReq blk h ents r) rs)) = _
    rw [addNew_count q blk h rs, joinReq_count, Nat.add_assoc, ← List.count_append]
    rfl

theorem notifySpends_count (q : Req) (blk : Block) (h : Nat) :
    ∀ ents : List Entry,
      List.count q (entReqs (notifySpends blk h ents).1) + List.count q ((notifySpends blk h ents).2.map (·.req))
        = List.count q (entReqs ents)
  | [] => rfl
  | e :: es => by
    have ih := notifySpends_count q blk h es
    cases hs : spendIn blk e.op with
    | none =>
      rw [notifySpends_cons_none hs]
      simp only [entReqs_cons, List.count_append, Nat.add_assoc, ih]
    | some ti =>
      rw [notifySpends_cons_some hs]
      simp only [entReqs_cons, List.count_append, List.map_append, map_req_mk, ← ih]
      exact Nat.add_left_comm ..

def Cons (w : World) (init : List Req) (st : St) : Prop :=
  ∀ q, List.count q (holds st) = List.count q (init ++ arrived w st.k)

theorem count_holds_out (q : Req) (st : St) (ds : List Deliv) :
    List.count q (holds { st with out := st.out ++ ds }) = List.count q (holds st) + List.count q (ds.map (·.req)) := by
  simp only [holds, List.map_append, List.count_append, Nat.add_assoc]

/-- the reporter's requests are answered: `FailRemaining`, `NotifyUnspentAndUnfound` -/
theorem count_holds_flush (q : Req) (st : St) (ds : List Deliv) (hds : ds.map (·.req) = entReqs st.ents) :
    List.count q (holds { st with ents := [], out := st.out ++ ds }) = List.count q (holds st) := by
  simp only [holds, List.map_append, List.count_append, hds, entReqs_nil, List.count_nil, Nat.add_zero, Nat.add_assoc,
    Nat.add_comm (List.count q (entReqs st.ents))]

theorem count_holds_fail (q : Req) (st : St) (e : Err) (h : Nat) :
    List.count q (holds (st.fail e h)) = List.count q (holds st) :=
  count_holds_flush q st _ (failAll_req e h st.ents)

theorem count_holds_stHash (w : World) (q : Req) (h : Nat) (st : St) :
    List.count q (holds (stHash w h st)) = List.count q (holds st) + List.count q (w.arrive (st.k + 1)) := by
  simp only [holds, stHash, List.count_append, Nat.add_assoc, Nat.add_comm (List.count q (w.arrive (st.k + 1)))]

theorem count_holds_st2 (w : World) (q : Req) (h : Nat) (st : St) :
    List.count q (holds (st2 w h st)) + List.count q (newAt w h st)
      = List.count q (holds st) + List.count q (w.arrive (st.k + 1)) := by
  have h3 := count_filter3 q h (st.pq ++ w.arrive (st.k + 1))
  simp only [holds, st2, newAt, List.count_append] at h3 ⊢
  omega

theorem count_holds_fetched (w : World) (q : Req) (h : Nat) (st : St) (new : List Req) :
    List.count q (holds (stFetched w h st new)) = List.count q (holds st) + List.count q new := by
  have h1 := notifySpends_count q (blockAt w.chain h) h (addNew (blockAt w.chain h) h st.ents new)
  have h2 := addNew_count q (blockAt w.chain h) h new st.ents
  simp only [holds, stFetched, List.count_append, List.map_append]
  omega

theorem count_arrived (w : World) (init : List Req) (q : Req) (k : Nat) :
    List.count q (init ++ arrived w (k + 1)) = List.count q (init ++ arrived w k) + List.count q (w.arrive (k + 1)) := by
  simp only [arrived, List.count_append, Nat.add_assoc]

theorem Cons.fail {w : World} {init : List Req} {st : St} (hc : Cons w init st) {e : Err} {h : Nat} :
    Cons w init (st.fail e h) :=
  fun q => (count_holds_fail q st e h).trans (hc q)

/-- conservation while the requests `new` are dequeued and not yet handed to the reporter -/
def ConsWith (w : World) (init : List Req) (st : St) (new : List Req) : Prop :=
  ∀ q, List.count q (holds st) + List.count q new = List.count q (init ++ arrived w st.k)

theorem ConsWith.nil {w : World} {init : List Req} {st : St} (hp : ConsWith w init st []) : Cons w init st :=
  fun q => (hp q).symm ▸ (Nat.add_zero _).symm

theorem fetchStep_cons (w : World) (init : List Req) (h : Nat) (st : St) (new : List Req)
    (hp : ConsWith w init st new) : Cons w init (fetchStep w h st new).st :=
  have hfail (e : Err) (lg : List Ev) : Cons w init { st with out := st.out ++ failNew new e h, log := lg } :=
    fun q => (count_holds_out q { st with log := lg } _).trans (by rw [failNew_req]; exact hp q)
  fetchStep_cases w h st new (fun s => Cons w init s.st)
    (quit := (hfail _ _).fail)
    (blockErr := (hfail _ _).fail)
    (fetched := fun q => (count_holds_fetched w q h st new).trans (hp q))

theorem stepH_cons (w : World) (init : List Req) (h : Nat) (st : St) (hc : Cons w init st) :
    Cons w init (stepH w h st).st :=
  have h1 : Cons w init (stHash w h st) :=
    fun q => by rw [count_holds_stHash, hc q]; exact (count_arrived w init q st.k).symm
  have h2 : ConsWith w init (st2 w h st) (newAt w h st) :=
    fun q => by rw [count_holds_st2, hc q]; exact (count_arrived w init q st.k).symm
  -- nothing dequeued: the filter is asked, and its log entry aside the state is that after the dequeue
  have h3 (hnew : newAt w h st = []) : ConsWith w init (st3 w h st) [] := hnew ▸ h2
  stepH_cases w h st (fun s => Cons w init s.st)
    (quit := hc.fail)
    (hashErr := h1.fail)
    (filterErr := fun hnew => (h3 hnew).nil.fail)
    (noMatch := fun hnew _ => (h3 hnew).nil)
    (matched := fun hnew => fetchStep_cons w init h _ _ (h3 hnew))
    (dequeued := fetchStep_cons w init h _ _ h2)

theorem init_cons (w : World) (init : List Req) : Cons w init { pq := init } := by
  intro q
  simp only [holds, arrived, List.map_nil, entReqs_nil, List.append_nil]

theorem cons_invariant (w : World) (init : List Req) : Invariant w (Cons w init) where
  step h st := stepH_cons w init h st
  done endH st hc q := (count_holds_flush q st _ (notifyUnspent_req endH st.ents)).trans (hc q)
  merge st hc q := by
    refine Eq.trans ?_ (hc q)
    simp only [holds, stMerge, List.append_nil, List.append_assoc]
  stop st hc q := by
    refine Eq.trans ?_ (hc q)
    simp only [holds, stStop, List.count_append, List.map_append, map_req_mk, List.count_nil, Nat.zero_add,
      Nat.add_assoc, Nat.add_comm (List.count q st.pq)]

theorem run_cons (w : World) (sf mf : Nat) (init : List Req) : Cons w init (run w sf mf init).2 :=
  (cons_invariant w init).mgr sf mf _ (init_cons w init) rfl

theorem Cons.perm {w : World} {init : List Req} {st : St} (hc : Cons w init st) :
    (holds st).Perm (init ++ arrived w st.k) := List.perm_iff_count.2 hc

theorem mem_holds_pq {st : St} {q : Req} (hq : q ∈ st.pq) : q ∈ holds st :=
  List.mem_append_left _ (List.mem_append_left _ (List.mem_append_left _ hq))

end Neutrino.Utxo
