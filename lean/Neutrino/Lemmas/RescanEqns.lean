/- Equations of the rescan model: what its handlers and `step` return, outcome by outcome, and which fields of the state
they leave alone. -/
import Neutrino.Model.Rescan
namespace Neutrino.Rescan

theorem trueMatch_wl_empty (W : World) (wl : List Script) (b : Nat) (h : wl.isEmpty = true) :
    trueMatch W wl b = false := by
  rw [List.isEmpty_iff.mp h]; rfl

theorem trueMatch_filter_empty (W : World) (wl : List Script) (b : Nat)
    (h : (filterElems W b).isEmpty = true) : trueMatch W wl b = false := by
  simp only [trueMatch, List.isEmpty_iff.mp h, List.contains_nil, List.any_eq_false, Bool.false_eq_true,
    not_false_eq_true, implies_true]

theorem handleConnected_reject (W : World) (s : St) (b : Nat) (h : W.prev b ≠ s.cur ∨ best s < s.curH + 1) :
    handleConnected W s b = (s, [], .err) := by
  unfold handleConnected
  rcases h with h | h
  · rw [if_pos (bne_iff_ne.mpr h)]
  · rw [if_pos h, ite_self]

section
variable {W : World} {s : St} {b : Nat} (hp : W.prev b = s.cur) (hh : s.curH + 1 ≤ best s)
include hp hh

/-- no filter is fetched before the start time or with an empty watch list -/
theorem handleConnected_unfiltered (h : (s.scanning || W.late b) = false ∨ s.w.wl.isEmpty = true) :
    handleConnected W s b =
      ({ s with scanning := s.scanning || W.late b, cur := b, curH := s.curH + 1 },
        [.conn (s.curH + 1) b []], .ok) := by
  have h' : (!(s.scanning || W.late b) || s.w.wl.isEmpty) = true := by
    rcases h with h | h <;> simp only [h, Bool.not_false, Bool.true_or, Bool.or_true]
  simp only [handleConnected, hp, bne_self_eq_false, Bool.false_eq_true, ↓reduceIte, Nat.not_lt.mpr hh, h']

-- `hfil`: a filter is consulted (the rescan is past its start time and watches something)
variable (hfil : (!(s.scanning || W.late b) || s.w.wl.isEmpty) = false) {fS : List Bool}
include hfil

theorem handleConnected_filterFail (hf : pop s.fS = (true, fS)) :
    handleConnected W s b = ({ s with scanning := s.scanning || W.late b, fS := fS }, [], .retry) := by
  simp only [handleConnected, hp, bne_self_eq_false, Bool.false_eq_true, ↓reduceIte, Nat.not_lt.mpr hh, hfil, hf]

variable (hf : pop s.fS = (false, fS)) {fp : Bool} {fpS : List Bool} (hfp : pop s.fpS = (fp, fpS))
include hf hfp

theorem handleConnected_unmatched (hm : (trueMatch W s.w.wl b || fp) = false) :
    handleConnected W s b =
      ({ s with scanning := s.scanning || W.late b, fS := fS, fpS := fpS, cur := b, curH := s.curH + 1 },
        [.conn (s.curH + 1) b []], .ok) := by
  simp only [handleConnected, hp, bne_self_eq_false, Bool.false_eq_true, ↓reduceIte, Nat.not_lt.mpr hh, hfil, hf, hfp, hm]

variable (hm : (trueMatch W s.w.wl b || fp) = true) {bS : List Bool}
include hm

theorem handleConnected_blockFail (hb : pop s.bS = (true, bS)) :
    handleConnected W s b =
      ({ s with scanning := s.scanning || W.late b, fS := fS, fpS := fpS, bS := bS }, [], .err) := by
  simp only [handleConnected, hp, bne_self_eq_false, Bool.false_eq_true, ↓reduceIte, Nat.not_lt.mpr hh, hfil, hf, hfp,
    hm, hb]

theorem handleConnected_scan (hb : pop s.bS = (false, bS)) :
    handleConnected W s b =
      ({ s with scanning := s.scanning || W.late b, fS := fS, fpS := fpS, bS := bS, cur := b, curH := s.curH + 1,
                w := (scanTxs (W.txs b) s.w).2 },
        [.conn (s.curH + 1) b (scanTxs (W.txs b) s.w).1], .ok) := by
  simp only [handleConnected, hp, bne_self_eq_false, Bool.false_eq_true, ↓reduceIte, Nat.not_lt.mpr hh, hfil, hf, hfp,
    hm, hb]

end

/-- Every outcome of `handleConnected` at once: apart from the scripts it consumes and the latched `scanning` flag the
state is untouched unless the block is accepted, which happens only for a child of the current block. -/
theorem handleConnected_cases (W : World) (s : St) (b : Nat) :
    ∃ sc fS fpS bS, (s.scanning = true → sc = true) ∧
      ((∃ hr, (hr = .retry ∨ hr = .err) ∧
          handleConnected W s b = ({ s with scanning := sc, fS := fS, fpS := fpS, bS := bS }, [], hr)) ∨
       (W.prev b = s.cur ∧ sc = (s.scanning || W.late b) ∧ ∃ txs w,
          handleConnected W s b =
            ({ s with scanning := sc, fS := fS, fpS := fpS, bS := bS, cur := b, curH := s.curH + 1, w := w },
              [.conn (s.curH + 1) b txs], .ok) ∧
          (txs = [] ∧ w = s.w ∧ (sc = false ∨ trueMatch W s.w.wl b = false) ∨
           txs = (scanTxs (W.txs b) s.w).1 ∧ w = (scanTxs (W.txs b) s.w).2))) := by
  by_cases hp : W.prev b = s.cur
  case neg => exact ⟨_, _, _, _, id, .inl ⟨.err, .inr rfl, handleConnected_reject W s b (.inl hp)⟩⟩
  by_cases hh : s.curH + 1 ≤ best s
  case neg => exact ⟨_, _, _, _, id, .inl ⟨.err, .inr rfl, handleConnected_reject W s b (.inr (Nat.not_le.mp hh))⟩⟩
  refine ⟨s.scanning || W.late b, ?_⟩
  have hsc : s.scanning = true → (s.scanning || W.late b) = true := fun h => by rw [h]; rfl
  by_cases hs : (s.scanning || W.late b) = true
  case neg =>
    have hs := Bool.eq_false_iff.mpr hs
    exact ⟨_, _, _, hsc, .inr ⟨hp, rfl, _, _, handleConnected_unfiltered hp hh (.inl hs), .inl ⟨rfl, rfl, .inl hs⟩⟩⟩
  by_cases hw : s.w.wl.isEmpty = true
  case pos =>
    exact ⟨_, _, _, hsc, .inr ⟨hp, rfl, _, _, handleConnected_unfiltered hp hh (.inr hw),
      .inl ⟨rfl, rfl, .inr (trueMatch_wl_empty W _ b hw)⟩⟩⟩
  have hfil : (!(s.scanning || W.late b) || s.w.wl.isEmpty) = false := by rw [hs, Bool.eq_false_iff.mpr hw]; rfl
  rcases hf : pop s.fS with ⟨_ | _, fS⟩
  case true => exact ⟨fS, _, _, hsc, .inl ⟨.retry, .inl rfl, handleConnected_filterFail hp hh hfil hf⟩⟩
  rcases hfp : pop s.fpS with ⟨fp, fpS⟩
  by_cases hm : (trueMatch W s.w.wl b || fp) = true
  case neg =>
    have hm := Bool.eq_false_iff.mpr hm
    exact ⟨fS, fpS, _, hsc, .inr ⟨hp, rfl, _, _, handleConnected_unmatched hp hh hfil hf hfp hm,
      .inl ⟨rfl, rfl, .inr (Bool.or_eq_false_iff.mp hm).1⟩⟩⟩
  rcases hb : pop s.bS with ⟨_ | _, bS⟩
  case true => exact ⟨fS, fpS, bS, hsc, .inl ⟨.err, .inr rfl, handleConnected_blockFail hp hh hfil hf hfp hm hb⟩⟩
  exact ⟨fS, fpS, bS, hsc, .inr ⟨hp, rfl, _, _, handleConnected_scan hp hh hfil hf hfp hm hb, .inr ⟨rfl, rfl⟩⟩⟩

section
variable {W : World} {s : St}

theorem notifyBlock_unfiltered (h : s.w.wl.isEmpty = true ∨ s.scanning = false) :
    notifyBlock W s = (s, [.conn s.curH s.cur []]) := by
  have h' : (!s.w.wl.isEmpty && s.scanning) = false := by
    rcases h with h | h <;> simp only [h, Bool.not_true, Bool.false_and, Bool.and_false]
  simp only [notifyBlock, h', Bool.false_eq_true, ↓reduceIte]

variable (hw : s.w.wl.isEmpty = false) (hs : s.scanning = true) {fS : List Bool}
include hw hs

theorem notifyBlock_filterFail (hf : pop s.fS = (true, fS)) :
    notifyBlock W s = ({ s with fS := fS, dead := true }, [.exit]) := by
  simp only [notifyBlock, hw, hs, hf, Bool.not_false, Bool.and_self, ↓reduceIte]

variable (hf : pop s.fS = (false, fS)) {fp : Bool} {fpS : List Bool} (hfp : pop s.fpS = (fp, fpS))
include hf hfp

theorem notifyBlock_unmatched (hm : (!(filterElems W s.cur).isEmpty && (trueMatch W s.w.wl s.cur || fp)) = false) :
    notifyBlock W s = ({ s with fS := fS, fpS := fpS }, [.conn s.curH s.cur []]) := by
  simp only [notifyBlock, hw, hs, hf, hfp, hm, Bool.not_false, Bool.and_self, ↓reduceIte, Bool.false_eq_true]

variable (hm : (!(filterElems W s.cur).isEmpty && (trueMatch W s.w.wl s.cur || fp)) = true) {bS : List Bool}
include hm

theorem notifyBlock_blockFail (hb : pop s.bS = (true, bS)) :
    notifyBlock W s = ({ s with fS := fS, fpS := fpS, bS := bS, dead := true }, [.exit]) := by
  simp only [notifyBlock, hw, hs, hf, hfp, hm, hb, Bool.not_false, Bool.and_self, ↓reduceIte, Bool.false_eq_true]

theorem notifyBlock_scan (hb : pop s.bS = (false, bS)) :
    notifyBlock W s =
      ({ s with fS := fS, fpS := fpS, bS := bS, w := (scanTxs (W.txs s.cur) s.w).2 },
        [.conn s.curH s.cur (scanTxs (W.txs s.cur) s.w).1]) := by
  simp only [notifyBlock, hw, hs, hf, hfp, hm, hb, Bool.not_false, Bool.and_self, ↓reduceIte, Bool.false_eq_true]

end

/-- Every outcome of `notifyBlock` at once: the rescan ends on a failed fetch, otherwise the current block is announced
with the transactions found in it, or with none when no filter was consulted or the true filter does not match. -/
theorem notifyBlock_cases (W : World) (s : St) :
    ∃ fS fpS bS,
      notifyBlock W s = ({ s with fS := fS, fpS := fpS, bS := bS, dead := true }, [.exit]) ∨
      ∃ txs w, notifyBlock W s = ({ s with fS := fS, fpS := fpS, bS := bS, w := w }, [.conn s.curH s.cur txs]) ∧
        (txs = [] ∧ w = s.w ∧ (s.scanning = false ∨ trueMatch W s.w.wl s.cur = false) ∨
         txs = (scanTxs (W.txs s.cur) s.w).1 ∧ w = (scanTxs (W.txs s.cur) s.w).2) := by
  by_cases hw : s.w.wl.isEmpty = true
  case pos =>
    exact ⟨_, _, _, .inr ⟨_, _, notifyBlock_unfiltered (.inl hw), .inl ⟨rfl, rfl, .inr (trueMatch_wl_empty W _ _ hw)⟩⟩⟩
  by_cases hs : s.scanning = true
  case neg =>
    have hs := Bool.eq_false_iff.mpr hs
    exact ⟨_, _, _, .inr ⟨_, _, notifyBlock_unfiltered (.inr hs), .inl ⟨rfl, rfl, .inl hs⟩⟩⟩
  have hw := Bool.eq_false_iff.mpr hw
  rcases hf : pop s.fS with ⟨_ | _, fS⟩
  case true => exact ⟨fS, _, _, .inl (notifyBlock_filterFail hw hs hf)⟩
  rcases hfp : pop s.fpS with ⟨fp, fpS⟩
  by_cases hm : (!(filterElems W s.cur).isEmpty && (trueMatch W s.w.wl s.cur || fp)) = true
  case neg =>
    have hm := Bool.eq_false_iff.mpr hm
    refine ⟨fS, fpS, _, .inr ⟨_, _, notifyBlock_unmatched hw hs hf hfp hm, .inl ⟨rfl, rfl, .inr ?_⟩⟩⟩
    cases he : (filterElems W s.cur).isEmpty
    case true => exact trueMatch_filter_empty W _ _ he
    rw [he] at hm
    exact (Bool.or_eq_false_iff.mp hm).1
  rcases hb : pop s.bS with ⟨_ | _, bS⟩
  case true => exact ⟨fS, fpS, bS, .inl (notifyBlock_blockFail hw hs hf hfp hm hb)⟩
  exact ⟨fS, fpS, bS, .inr ⟨_, _, notifyBlock_scan hw hs hf hfp hm hb, .inr ⟨rfl, rfl⟩⟩⟩

/-- one iteration of the catch-up arm: the subscription fails, or succeeds, or the block the best chain holds at the next
height becomes current (whatever its parent is) and is announced -/
theorem catchUp_cases (W : World) (s : St) :
    catchUp W s = ({ s with dead := true }, [.exit]) ∨ catchUp W s = ({ s with current := true, queue := [] }, []) ∨
    ∃ b, s.chain[s.curH + 1]? = some b ∧
      catchUp W s = notifyBlock W { s with cur := b, curH := s.curH + 1, scanning := s.scanning || W.late b } := by
  by_cases h1 : s.curH + 1 > best s
  · by_cases h2 : (s.curH != 0 && decide (s.curH > best s)) = true
    · exact .inl ((if_pos h1).trans (if_pos h2))
    · exact .inr (.inl ((if_pos h1).trans (if_neg h2)))
  · cases hb : s.chain[s.curH + 1]? with
    | none => exact .inl ((if_neg h1).trans (by rw [hb]))
    | some b => exact .inr (.inr ⟨b, rfl, (if_neg h1).trans (by rw [hb])⟩)

/-- callbacks that deliver no block -/
def quiet : Cb → Bool
  | .conn _ _ _ => false
  | _ => true

section
variable {W : World} {r : Nat} {q : Bool} {n : Nat} {s : St} {rew : Bool}

theorem rewindLoop_done (h : s.curH ≤ r) : rewindLoop W r q (n + 1) s rew = (s, [], rew, false) := by
  simp only [rewindLoop, Nat.not_lt.mpr h, ↓reduceIte]

/-- the parent has left the header store: the callback for the current block is out, the rescan is not moved -/
theorem rewindLoop_lost (h : r < s.curH) (hp : s.chain.contains (W.prev s.cur) = false) :
    rewindLoop W r q (n + 1) s rew = (s, if q then [] else [.disc s.curH s.cur], true, true) := by
  simp only [rewindLoop, h, hp, ↓reduceIte, Bool.not_false]

theorem rewindLoop_back (h : r < s.curH) (hp : s.chain.contains (W.prev s.cur) = true) :
    rewindLoop W r q (n + 1) s rew =
      let x := rewindLoop W r q n { s with cur := W.prev s.cur, curH := W.height (W.prev s.cur) } true
      (x.1, (if q then [] else [.disc s.curH s.cur]) ++ x.2.1, x.2.2) := by
  simp only [rewindLoop, h, hp, ↓reduceIte, Bool.not_true, Bool.false_eq_true]

end

/-- a rewind moves the rescan's position and nothing else, and only issues disconnected callbacks -/
theorem rewindLoop_frame (W : World) (r : Nat) (q : Bool) (n : Nat) (s : St) (rew : Bool) :
    ∃ cur curH, (rewindLoop W r q n s rew).1 = { s with cur := cur, curH := curH } ∧
      ∀ x, x ∈ (rewindLoop W r q n s rew).2.1 → quiet x = true := by
  induction n generalizing s rew with
  | zero => exact ⟨_, _, rfl, nofun⟩
  | succ n ih =>
    have hq : ∀ x, x ∈ (if q = true then [] else [Cb.disc s.curH s.cur]) → quiet x = true := by
      intro x hx
      split at hx
      · cases hx
      · rw [List.mem_singleton.mp hx]; rfl
    by_cases h : r < s.curH
    case neg => rw [rewindLoop_done (Nat.not_lt.mp h)]; exact ⟨_, _, rfl, nofun⟩
    cases hp : s.chain.contains (W.prev s.cur)
    case false => rw [rewindLoop_lost h hp]; exact ⟨_, _, rfl, hq⟩
    rw [rewindLoop_back h hp]
    obtain ⟨cur, curH, hs, hx⟩ := ih { s with cur := W.prev s.cur, curH := W.height (W.prev s.cur) } true
    refine ⟨cur, curH, hs, fun x hm => ?_⟩
    rcases List.mem_append.mp hm with hm | hm
    · exact hq x hm
    · exact hx x hm

theorem applyUpdate_frame (W : World) (s : St) (u : Upd) :
    ∃ cur curH, (applyUpdate W s u).1 = { s with w := addWatch s.w u, cur := cur, curH := curH } ∧
      ∀ x, x ∈ (applyUpdate W s u).2.1 → quiet x = true := by
  by_cases h : (u.rewind == 0) = true
  · rw [applyUpdate, if_pos h]; exact ⟨_, _, rfl, nofun⟩
  · rw [applyUpdate, if_neg h]; exact rewindLoop_frame W u.rewind u.quiet s.curH { s with w := addWatch s.w u } false

section
variable {W : World} {s : St}

theorem step_connected_idle {b : Nat} (h : (s.dead || !s.current) = true) : step W s (.connected b) = (s, []) :=
  if_pos h

theorem step_connected_stash {b : Nat} (h : (s.dead || !s.current) = false) (hq : s.queue.isEmpty = false) :
    step W s (.connected b) = ({ s with queue := s.queue ++ [b] }, []) :=
  (if_neg (Bool.eq_false_iff.mp h)).trans (if_pos (by rw [hq]; rfl))

theorem step_connected_handle {b : Nat} (h : (s.dead || !s.current) = false) (hq : s.queue.isEmpty = true) :
    step W s (.connected b) =
      match handleConnected W s b with
      | (s', cbs, .ok) => (s', cbs)
      | (s', cbs, .retry) => ({ s' with queue := s'.queue ++ [b], timer := true }, cbs)
      | (s', cbs, .err) => ({ s' with current := false }, cbs) :=
  (if_neg (Bool.eq_false_iff.mp h)).trans (if_neg (by rw [hq]; nofun))

theorem step_disconnected_idle {b tip : Nat} (h : (s.dead || !s.current) = true) :
    step W s (.disconnected b tip) = (s, []) :=
  if_pos h

theorem step_disconnected_other {b tip : Nat} (h : (s.dead || !s.current) = false) (hb : b ≠ s.cur) :
    step W s (.disconnected b tip) = ({ s with queue := qRemove s.queue b }, []) :=
  (if_neg (Bool.eq_false_iff.mp h)).trans (if_pos (bne_iff_ne.mpr hb))

theorem step_disconnected_cur {tip : Nat} (h : (s.dead || !s.current) = false) :
    step W s (.disconnected s.cur tip) =
      ({ s with queue := qRemove s.queue s.cur, cur := tip, curH := s.curH - 1 }, [.disc s.curH s.cur]) :=
  (if_neg (Bool.eq_false_iff.mp h)).trans (if_neg (by rw [bne_self_eq_false]; nofun))

theorem step_tick_idle (h : (s.dead || !s.current || !s.timer) = true) : step W s .tick = (s, []) :=
  if_pos h

theorem step_tick_retry (h : (s.dead || !s.current || !s.timer) = false) :
    step W s .tick = retryLoop W s.queue.length { s with timer := false } :=
  if_neg (Bool.eq_false_iff.mp h)

theorem step_step_idle (h : (s.dead || s.current) = true) : step W s .step = (s, []) :=
  if_pos h

theorem step_step_catchUp (h : (s.dead || s.current) = false) : step W s .step = catchUp W s :=
  if_neg (Bool.eq_false_iff.mp h)

theorem step_update_dead {u : Upd} (h : s.dead = true) : step W s (.update u) = (s, []) :=
  if_pos h

variable {u : Upd} {s' : St} {cbs : List Cb} {rew : Bool} (h : s.dead = false)
include h

theorem step_update_failed (ha : applyUpdate W s u = (s', cbs, rew, true)) :
    step W s (.update u) = ({ s' with dead := true }, cbs ++ [.exit]) := by
  unfold step
  simp only [h, ha, Bool.false_eq_true, ↓reduceIte]

/-- an update that rewound a current rescan sends it back to the catch-up arm -/
theorem step_update_ok (ha : applyUpdate W s u = (s', cbs, rew, false)) :
    ∃ c, step W s (.update u) = ({ s' with current := c }, cbs) := by
  unfold step
  simp only [h, ha, Bool.false_eq_true, ↓reduceIte]
  split
  · exact ⟨false, rfl⟩
  · exact ⟨s'.current, rfl⟩

end

end Neutrino.Rescan
