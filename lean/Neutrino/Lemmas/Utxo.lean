/-
Lemmas for C10 (UTXO scanner): case analysis of `stepH`/`fetchStep`, induction over `scan` and `mgr`, and the
height invariant that makes every delivery acceptable, for any reading of "acceptable" that `Answers` admits
(`delivOk` here, `delivExact` in `Lemmas/UtxoExact.lean`).  Conservation lemmas live in `Lemmas/UtxoPerm.lean`.
-/
import Neutrino.Spec.Utxo
namespace Neutrino.Utxo

/-- the requests dequeued at height `h` in this iteration -/
def newAt (w : World) (h : Nat) (st : St) : List Req :=
  (st.pq ++ w.arrive (st.k + 1)).filter (fun q => q.birth == h)

/-- state at a `GetBlockHash` failure -/
def stHash (w : World) (h : Nat) (st : St) : St :=
  { st with k := st.k + 1, pq := st.pq ++ w.arrive (st.k + 1), quit := w.stopAt (st.k + 1),
            log := st.log ++ [Ev.hash h false] }

/-- state after `dequeueAtHeight` -/
def st2 (w : World) (h : Nat) (st : St) : St :=
  { st with k := st.k + 1,
            pq := (st.pq ++ w.arrive (st.k + 1)).filter (fun q => h < q.birth),
            quit := w.stopAt (st.k + 1),
            next := st.next ++ (st.pq ++ w.arrive (st.k + 1)).filter (fun q => q.birth < h),
            log := st.log ++ [Ev.hash h true] }

/-- state after the filter query -/
def st3 (w : World) (h : Nat) (st : St) : St :=
  { st2 w h st with
    log := (st2 w h st).log ++
      [Ev.filter h (st.ents.map (·.op)) (w.fm (st.k + 1) h (st.ents.map (·.op)))] }

theorem stepH_eq (w : World) (h : Nat) (st : St) :
    stepH w h st =
      if st.quit then .fail (st.fail .shutdown h)
      else if w.hashErr (st.k + 1) then .fail ((stHash w h st).fail .hashFail h)
      else if (newAt w h st).isEmpty then
        match w.fm (st.k + 1) h (st.ents.map (·.op)) with
        | none => .fail ((st3 w h st).fail .filterFail h)
        | some false => .cont (st3 w h st)
        | some true => fetchStep w h (st3 w h st) (newAt w h st)
      else fetchStep w h (st2 w h st) (newAt w h st) := rfl

theorem stepH_cases (w : World) (h : Nat) (st : St) (P : Step → Prop)
    (quit : P (.fail (st.fail .shutdown h)))
    (hashErr : P (.fail ((stHash w h st).fail .hashFail h)))
    (filterErr : newAt w h st = [] → P (.fail ((st3 w h st).fail .filterFail h)))
    (noMatch : newAt w h st = [] → w.fm (st.k + 1) h (st.ents.map (·.op)) = some false → P (.cont (st3 w h st)))
    (matched : newAt w h st = [] → P (fetchStep w h (st3 w h st) []))
    (dequeued : P (fetchStep w h (st2 w h st) (newAt w h st))) :
    P (stepH w h st) := by
  rw [stepH_eq]
  refine iteInduction (fun _ => quit) fun _ => iteInduction (fun _ => hashErr) fun _ =>
    iteInduction (fun he => ?_) fun _ => dequeued
  have hnew : newAt w h st = [] := List.isEmpty_iff.1 he
  cases hv : w.fm (st.k + 1) h (st.ents.map (·.op)) with
  | none => exact filterErr hnew
  | some b =>
    cases b with
    | false => exact noMatch hnew hv
    | true => rw [hnew]; exact matched hnew

/-- state at a block fetch that is not attempted (quit) -/
def stFailQ (h : Nat) (st : St) (new : List Req) : St := { st with out := st.out ++ failNew new .shutdown h }

/-- state at a failed block fetch -/
def stFailB (h : Nat) (st : St) (new : List Req) : St :=
  { st with out := st.out ++ failNew new .blockFail h, log := st.log ++ [Ev.block h false] }

/-- state after a fetched block was processed -/
def stFetched (w : World) (h : Nat) (st : St) (new : List Req) : St :=
  { st with ents := (notifySpends (blockAt w.chain h) h (addNew (blockAt w.chain h) h st.ents new)).1,
            out := st.out ++ (notifySpends (blockAt w.chain h) h (addNew (blockAt w.chain h) h st.ents new)).2,
            log := st.log ++ [Ev.block h true] }

theorem fetchStep_cases (w : World) (h : Nat) (st : St) (new : List Req) (P : Step → Prop)
    (quit : P (.fail ((stFailQ h st new).fail .shutdown h)))
    (blockErr : P (.fail ((stFailB h st new).fail .blockFail h)))
    (fetched : P (.cont (stFetched w h st new))) :
    P (fetchStep w h st new) := by
  unfold fetchStep
  exact iteInduction (fun _ => quit) fun _ => iteInduction (fun _ => blockErr) fun _ => fetched

theorem mem_newAt {w : World} {h : Nat} {st : St} {q : Req} (hq : q ∈ newAt w h st) : q.birth = h := by
  simp only [newAt, List.mem_filter, beq_iff_eq] at hq
  exact hq.2

def NoSpend (c : Chain) (op : Outpoint) (a h : Nat) : Prop :=
  ∀ x, a ≤ x → x < h → spendIn (blockAt c x) op = none

theorem NoSpend.succ {c : Chain} {op : Outpoint} {a h : Nat} (hn : NoSpend c op a h)
    (hh : spendIn (blockAt c h) op = none) : NoSpend c op a (h + 1) := fun x hax hxh =>
  (Nat.lt_succ_iff_lt_or_eq.1 hxh).elim (hn x hax) (fun e => e ▸ hh)

theorem NoSpend.refl (c : Chain) (op : Outpoint) (a : Nat) : NoSpend c op a a :=
  fun _ hax hxh => absurd (Nat.lt_of_le_of_lt hax hxh) (Nat.lt_irrefl _)

theorem NoSpend.tail {c : Chain} {op : Outpoint} {a h : Nat} (hn : NoSpend c op a h) : NoSpend c op (a + 1) h :=
  fun x hax hxh => hn x (Nat.le_of_succ_le hax) hxh

theorem firstSpendFrom_none (c : Chain) (op : Outpoint) :
    ∀ (n a : Nat), NoSpend c op a (a + n) → firstSpendFrom c op a n = none
  | 0, _, _ => rfl
  | n + 1, a, hn => by
    rw [firstSpendFrom, hn a (Nat.le_refl _) (Nat.lt_add_of_pos_right (Nat.succ_pos n))]
    exact firstSpendFrom_none c op n (a + 1) (Nat.add_right_comm a 1 n ▸ hn.tail)

theorem firstSpendFrom_hit (c : Chain) (op : Outpoint) (t i : Nat) :
    ∀ (n a : Nat), NoSpend c op a (a + n) → spendIn (blockAt c (a + n)) op = some (t, i) →
      firstSpendFrom c op a (n + 1) = some (a + n, t, i)
  | 0, a, _, hs => by rw [firstSpendFrom, show spendIn (blockAt c a) op = some (t, i) from hs]; rfl
  | n + 1, a, hn, hs => by
    rw [firstSpendFrom, hn a (Nat.le_refl _) (Nat.lt_add_of_pos_right (Nat.succ_pos n))]
    have := firstSpendFrom_hit c op t i n (a + 1) (Nat.add_right_comm a 1 n ▸ hn.tail) (Nat.add_right_comm a 1 n ▸ hs)
    rw [Nat.add_right_comm a 1 n] at this
    exact this

theorem firstSpendFrom_hit' (c : Chain) (op : Outpoint) (a h t i : Nat) (hah : a ≤ h)
    (hn : NoSpend c op a h) (hs : spendIn (blockAt c h) op = some (t, i)) :
    firstSpendFrom c op a (h + 1 - a) = some (h, t, i) := by
  obtain ⟨n, rfl⟩ := Nat.le.dest hah
  rw [Nat.add_assoc, Nat.add_sub_cancel_left]
  exact firstSpendFrom_hit c op t i n a hn hs

theorem firstSpendFrom_none' (c : Chain) (op : Outpoint) (a e : Nat) (hae : a ≤ e + 1)
    (hn : NoSpend c op a (e + 1)) : firstSpendFrom c op a (e + 1 - a) = none := by
  obtain ⟨n, hn'⟩ := Nat.le.dest hae
  rw [← hn', Nat.add_sub_cancel_left]
  exact firstSpendFrom_none c op n a (hn' ▸ hn)

theorem blockAt_out_of_range (c : Chain) (b : Nat) (hb : c.length ≤ b) : blockAt c b = [] := by
  simp only [blockAt, List.getD_eq_getElem?_getD, List.getElem?_eq_none hb, Option.getD_none]

theorem initialAt_ne_empty_lt (c : Chain) (b : Nat) (op : Outpoint) (hne : initialAt c b op ≠ .empty) :
    b < c.length :=
  Nat.lt_of_not_le fun hb => hne (by simp only [initialAt, initialIn, blockAt_out_of_range c b hb, initialFrom])

def Step.st : Step → St
  | .cont s => s
  | .fail s => s

@[simp] theorem Step.st_cont (s : St) : (Step.cont s).st = s := rfl
@[simp] theorem Step.st_fail (s : St) : (Step.fail s).st = s := rfl

def Step.Inv (I : Nat → St → Prop) (G : Status × St → Prop) (h : Nat) : Step → Prop
  | .cont st' => I (h + 1) st'
  | .fail st' => G (.failed, st')

/-- `I h` holds before the iteration at height `h`; `G` then holds of whatever `scan` returns -/
theorem scan_inv (w : World) (I : Nat → St → Prop) (G : Status × St → Prop)
    (hfuel : ∀ h st, I h st → G (.fuelOut, st))
    (hstep : ∀ h st, I h st → (stepH w h st).Inv I G h)
    (hdone : ∀ e st, I (e + 1) st → G (.done, { st with ents := [], out := st.out ++ notifyUnspent st.ents e })) :
    ∀ (fuel h endH : Nat) (st : St), h ≤ endH + 1 → I h st → G (scan w fuel h endH st)
  | 0, _, _, _, _, hi => hfuel _ _ hi
  | fuel + 1, h, endH, st, hle, hi => by
    rw [scan]
    by_cases hh : h ≤ endH
    · rw [if_pos hh]
      match stepH w h st, hstep h st hi with
      | .cont st', hs => exact scan_inv w I G hfuel hstep hdone fuel (h + 1) endH st' (Nat.succ_le_succ hh) hs
      | .fail _, hs => exact hs
    · cases Nat.le_antisymm hle (Nat.not_le.1 hh)
      rw [if_neg hh]
      by_cases ht : endH < w.tip st.k
      · rw [if_pos ht]
        exact scan_inv w I G hfuel hstep hdone fuel (endH + 1) (w.tip st.k) st (Nat.succ_le_succ (Nat.le_of_lt ht)) hi
      · rw [if_neg ht]
        exact hdone endH st hi

theorem scan_ents (w : World) (fuel h endH : Nat) (st : St) (hle : h ≤ endH + 1)
    (hne : (scan w fuel h endH st).1 ≠ .fuelOut) : (scan w fuel h endH st).2.ents = [] := by
  refine scan_inv w (fun _ _ => True) (fun r => r.1 ≠ .fuelOut → r.2.ents = []) (fun _ _ _ hne => absurd rfl hne)
    (fun h st _ => ?_) (fun _ _ _ _ => rfl) fuel h endH st hle trivial hne
  -- every failing branch ends in `St.fail`, which empties the reporter
  exact stepH_cases w h st _ (quit := fun _ => rfl) (hashErr := fun _ => rfl) (filterErr := fun _ _ => rfl)
    (noMatch := fun _ _ => trivial)
    (matched := fun _ => fetchStep_cases _ _ _ _ _ (fun _ => rfl) (fun _ => rfl) trivial)
    (dequeued := fetchStep_cases _ _ _ _ _ (fun _ => rfl) (fun _ => rfl) trivial)

theorem St.ents_nil_eta (st : St) (h : st.ents = []) : { st with ents := [] } = st := by
  cases st; simp only at h; subst h; rfl

/-- the state at the top of a `batchManager` iteration -/
def stMerge (st : St) : St := { st with pq := st.pq ++ st.next, next := [] }

/-- the state after `Stop` drained the queue -/
def stStop (st : St) : St :=
  { st with pq := [], out := st.out ++ st.pq.map (fun q => ⟨q, .err .shutdown, 0⟩) }

theorem mgr_eq (w : World) (sf fuel : Nat) (st : St) :
    mgr w sf (fuel + 1) st =
      if (stMerge st).pq.isEmpty then (.idle, stMerge st)
      else if (stMerge st).quit then (.stopped, stStop (stMerge st))
      else if w.tip (stMerge st).k < minBirth (stMerge st).pq then (.spin, stMerge st)
      else
        match scan w sf (minBirth (stMerge st).pq) (w.tip (stMerge st).k) { stMerge st with ents := [] } with
        | (.fuelOut, st') => (.fuelOut, st')
        | (_, st') => mgr w sf fuel st' := rfl

theorem minBirth_le : ∀ (l : List Req) (q : Req), q ∈ l → minBirth l ≤ q.birth
  | [], _, hq => by cases hq
  | [a], q, hq => by
    simp only [List.mem_singleton] at hq
    subst hq; exact Nat.le_refl _
  | a :: b :: rest, q, hq => by
    have ih := minBirth_le (b :: rest) q
    simp only [minBirth]
    rcases List.mem_cons.1 hq with hq | hq
    · subst hq; exact Nat.min_le_left _ _
    · exact Nat.le_trans (Nat.min_le_right _ _) (ih hq)

def MgrExit (w : World) (r : MStatus × St) : Prop :=
  (r.1 = .idle ∨ r.1 = .stopped → r.2.pq = [] ∧ r.2.next = [] ∧ r.2.ents = []) ∧
  (r.1 = .spin → r.2.pq ≠ [] ∧ ∀ q ∈ r.2.pq, w.tip r.2.k < q.birth)

theorem mgr_inv (w : World) (sf : Nat) (I : St → Prop)
    (hmerge : ∀ st, I st → I (stMerge st))
    (hstop : ∀ st, I st → I (stStop st))
    (hscan : ∀ fuel h e st, I st → st.ents = [] → h ≤ e → I (scan w fuel h e st).2) :
    ∀ (fuel : Nat) (st : St), I st → st.ents = [] → I (mgr w sf fuel st).2 ∧ MgrExit w (mgr w sf fuel st)
  | 0, _, hi, _ => ⟨hi, fun h => h.elim MStatus.noConfusion MStatus.noConfusion, MStatus.noConfusion⟩
  | fuel + 1, st, hi, he => by
    rw [mgr_eq]
    have hm := hmerge st hi
    by_cases hemp : (stMerge st).pq.isEmpty = true
    · rw [if_pos hemp]
      exact ⟨hm, fun _ => ⟨List.isEmpty_iff.1 hemp, rfl, he⟩, MStatus.noConfusion⟩
    · rw [if_neg hemp]
      by_cases hq : (stMerge st).quit = true
      · rw [if_pos hq]
        exact ⟨hstop _ hm, fun _ => ⟨rfl, rfl, he⟩, MStatus.noConfusion⟩
      · rw [if_neg hq]
        by_cases hsp : w.tip (stMerge st).k < minBirth (stMerge st).pq
        · rw [if_pos hsp]
          exact ⟨hm, fun h => h.elim MStatus.noConfusion MStatus.noConfusion,
            fun _ => ⟨fun h0 => hemp (by rw [h0]; rfl), fun q hq => Nat.lt_of_lt_of_le hsp (minBirth_le _ q hq)⟩⟩
        · rw [if_neg hsp, St.ents_nil_eta (stMerge st) he]
          have hsc := hscan sf _ _ _ hm he (Nat.not_lt.1 hsp)
          have hse := scan_ents w sf _ _ (stMerge st) (Nat.le_succ_of_le (Nat.not_lt.1 hsp))
          generalize scan w sf (minBirth (stMerge st).pq) (w.tip (stMerge st).k) (stMerge st) = r at hsc hse
          obtain ⟨s, st'⟩ := r
          cases s with
          | fuelOut => exact ⟨hsc, fun h => h.elim MStatus.noConfusion MStatus.noConfusion, MStatus.noConfusion⟩
          | done | failed => exact mgr_inv w sf I hmerge hstop hscan fuel st' hsc (hse Status.noConfusion)

structure Invariant (w : World) (K : St → Prop) : Prop where
  step : ∀ h st, K st → K (stepH w h st).st
  done : ∀ e st, K st → K { st with ents := [], out := st.out ++ notifyUnspent st.ents e }
  merge : ∀ st, K st → K (stMerge st)
  stop : ∀ st, K st → K (stStop st)

theorem Invariant.trivial (w : World) : Invariant w (fun _ => True) :=
  ⟨fun _ _ _ => .intro, fun _ _ _ => .intro, fun _ _ => .intro, fun _ _ => .intro⟩

theorem Invariant.scan {w : World} {K : St → Prop} (hK : Invariant w K) (fuel h endH : Nat) (st : St)
    (hle : h ≤ endH + 1) (hi : K st) : K (scan w fuel h endH st).2 := by
  refine scan_inv w (fun _ => K) (fun r => K r.2) (fun _ _ => id) (fun h st hi => ?_) hK.done fuel h endH st hle hi
  match stepH w h st, hK.step h st hi with
  | .cont _, hs => exact hs
  | .fail _, hs => exact hs

theorem Invariant.mgr {w : World} {K : St → Prop} (hK : Invariant w K) (sf fuel : Nat) (st : St) (hi : K st)
    (he : st.ents = []) : K (mgr w sf fuel st).2 :=
  (mgr_inv w sf K hK.merge hK.stop (fun fuel h e st hi _ hle => hK.scan fuel h e st (Nat.le_succ_of_le hle) hi) fuel st hi he).1

theorem mgr_exit (w : World) (sf fuel : Nat) (st : St) (he : st.ents = []) : MgrExit w (mgr w sf fuel st) :=
  (mgr_inv w sf (fun _ => True) (fun _ _ => trivial) (fun _ _ => trivial) (fun _ _ _ _ _ _ _ => trivial)
    fuel st trivial he).2

/-- every member of the entry asks for the entry's outpoint and has been scanned for spends through height `h - 1` -/
def Scanned (c : Chain) (h : Nat) (e : Entry) : Prop :=
  ∀ q ∈ e.reqs, q.op = e.op ∧ q.birth ≤ h ∧ NoSpend c e.op q.birth h

theorem Scanned.succ {c : Chain} {h : Nat} {e : Entry} (he : Scanned c h e)
    (hs : spendIn (blockAt c h) e.op = none) : Scanned c (h + 1) e :=
  fun q hq => ⟨(he q hq).1, Nat.le_succ_of_le (he q hq).2.1, (he q hq).2.2.succ hs⟩

theorem Scanned.spent {c : Chain} {h : Nat} {e : Entry} (he : Scanned c h e) {t i : Nat}
    (hs : spendIn (blockAt c h) e.op = some (t, i)) {q : Req} (hq : q ∈ e.reqs) :
    delivExact c ⟨q, .ok (.spent t i h), h⟩ := by
  have hq' := he q hq
  simp only [delivExact, answerExact, fate]
  rw [hq'.1, firstSpendFrom_hit' c e.op q.birth h t i hq'.2.1 hq'.2.2 hs]

/-- What a reading of "the answer is right" has to provide for the scan to establish it: `D` are the acceptable
deliveries, `J` is what the reporter keeps true of an entry's initial report, `N` is what is known of a request
when it is dequeued.  Errors and spends are exact on every reading; the readings differ in the unspent answer. -/
structure Answers (w : World) (J : Entry → Prop) (D : Deliv → Prop) (N : Req → Prop) : Prop where
  exact : ∀ d, delivExact w.chain d → D d
  fresh : ∀ r, N r → J ⟨r.op, [r], initialAt w.chain r.birth r.op⟩
  extend : ∀ h e r, N r → e.op = r.op → Scanned w.chain h e → J e →
    J { e with reqs := e.reqs ++ [r], init := mergeInit e.init (initialAt w.chain r.birth r.op) }
  unspent : ∀ u e, Scanned w.chain (u + 1) e → J e → ∀ q ∈ e.reqs, D ⟨q, .ok e.init, u⟩

def EntsInv (w : World) (J : Entry → Prop) (h : Nat) (ents : List Entry) : Prop :=
  ∀ e ∈ ents, Scanned w.chain h e ∧ J e

theorem joinReq_cons_eq {blk : Block} {h : Nat} {e : Entry} {es : List Entry} {r : Req} (hop : e.op = r.op) :
    joinReq blk h (e :: es) r =
      { e with reqs := e.reqs ++ [r], init := mergeInit e.init (initialIn blk h r.op) } :: es := if_pos hop

theorem joinReq_cons_ne {blk : Block} {h : Nat} {e : Entry} {es : List Entry} {r : Req} (hop : e.op ≠ r.op) :
    joinReq blk h (e :: es) r = e :: joinReq blk h es r := if_neg hop

theorem notifySpends_cons_none {blk : Block} {h : Nat} {e : Entry} {es : List Entry}
    (hs : spendIn blk e.op = none) :
    notifySpends blk h (e :: es) = (e :: (notifySpends blk h es).1, (notifySpends blk h es).2) := by
  rw [notifySpends, hs]

theorem notifySpends_cons_some {blk : Block} {h : Nat} {e : Entry} {es : List Entry} {t i : Nat}
    (hs : spendIn blk e.op = some (t, i)) :
    notifySpends blk h (e :: es) = ((notifySpends blk h es).1,
      e.reqs.map (fun q => ⟨q, .ok (.spent t i h), h⟩) ++ (notifySpends blk h es).2) := by
  rw [notifySpends, hs]

section
variable {w : World} {J : Entry → Prop} {D : Deliv → Prop} {N : Req → Prop} (A : Answers w J D N)
include A

theorem Answers.errs (l : List Req) (e : Err) (u : Nat) : ∀ d ∈ l.map (fun q => (⟨q, .err e, u⟩ : Deliv)), D d := by
  intro d hd
  obtain ⟨q, _, rfl⟩ := List.mem_map.1 hd
  exact A.exact _ trivial

theorem Answers.fail {st : St} {e : Err} {u : Nat} (h : ∀ d ∈ st.out, D d) : ∀ d ∈ (st.fail e u).out, D d := by
  refine List.forall_mem_append.2 ⟨h, fun d hd => ?_⟩
  obtain ⟨en, _, hd⟩ := List.mem_flatMap.1 hd
  exact A.errs _ e u d hd

theorem joinReq_inv {r : Req} (hN : N r) : ∀ {ents : List Entry}, EntsInv w J r.birth ents →
    EntsInv w J r.birth (joinReq (blockAt w.chain r.birth) r.birth ents r)
  | [], _ => List.forall_mem_singleton.2
      ⟨fun q hq => List.mem_singleton.1 hq ▸ ⟨rfl, Nat.le_refl _, NoSpend.refl _ _ _⟩, A.fresh r hN⟩
  | e :: es, hok => by
    obtain ⟨he, hes⟩ := List.forall_mem_cons.1 hok
    by_cases hop : e.op = r.op
    · rw [joinReq_cons_eq hop]
      refine List.forall_mem_cons.2 ⟨⟨fun q hq => ?_, A.extend _ e r hN hop he.1 he.2⟩, hes⟩
      rcases List.mem_append.1 hq with hq | hq
      · exact he.1 q hq
      · rw [List.mem_singleton.1 hq]
        exact ⟨hop.symm, Nat.le_refl _, NoSpend.refl _ _ _⟩
    · rw [joinReq_cons_ne hop]
      exact List.forall_mem_cons.2 ⟨he, joinReq_inv hN hes⟩

theorem addNew_inv {h : Nat} : ∀ (new : List Req) {ents : List Entry}, (∀ q ∈ new, q.birth = h ∧ N q) →
    EntsInv w J h ents → EntsInv w J h (addNew (blockAt w.chain h) h ents new)
  | [], _, _, hok => hok
  | r :: rs, _, hb, hok => by
    obtain ⟨rfl, hN⟩ := hb r (List.mem_cons_self ..)
    exact addNew_inv rs (fun q hq => hb q (List.mem_cons_of_mem _ hq)) (joinReq_inv A hN hok)

theorem notifySpends_inv {h : Nat} : ∀ {ents : List Entry}, EntsInv w J h ents →
    EntsInv w J (h + 1) (notifySpends (blockAt w.chain h) h ents).1 ∧
      ∀ d ∈ (notifySpends (blockAt w.chain h) h ents).2, D d
  | [], _ => ⟨fun _ h => (List.not_mem_nil h).elim, fun _ h => (List.not_mem_nil h).elim⟩
  | e :: es, hok => by
    obtain ⟨he, hes⟩ := List.forall_mem_cons.1 hok
    have ih := notifySpends_inv hes
    cases hs : spendIn (blockAt w.chain h) e.op with
    | none =>
      rw [notifySpends_cons_none hs]
      exact ⟨List.forall_mem_cons.2 ⟨⟨he.1.succ hs, he.2⟩, ih.1⟩, ih.2⟩
    | some ti =>
      rw [notifySpends_cons_some hs]
      refine ⟨ih.1, List.forall_mem_append.2 ⟨fun d hd => ?_, ih.2⟩⟩
      obtain ⟨q, hq, rfl⟩ := List.mem_map.1 hd
      exact A.exact _ (he.1.spent hs hq)

theorem notifyUnspent_inv {u : Nat} {ents : List Entry} (hok : EntsInv w J (u + 1) ents) :
    ∀ d ∈ notifyUnspent ents u, D d := by
  intro d hd
  simp only [notifyUnspent, List.mem_flatMap, List.mem_map] at hd
  obtain ⟨e, he, q, hq, rfl⟩ := hd
  exact A.unspent u e (hok e he).1 (hok e he).2 q hq

def HInv (w : World) (J : Entry → Prop) (D : Deliv → Prop) (h : Nat) (st : St) : Prop :=
  EntsInv w J h st.ents ∧ ∀ d ∈ st.out, D d

theorem fetchStep_inv (h : Nat) (st : St) (new : List Req) (hb : ∀ q ∈ new, q.birth = h ∧ N q)
    (hi : HInv w J D h st) : (fetchStep w h st new).Inv (HInv w J D) (fun r => ∀ d ∈ r.2.out, D d) h :=
  have hnew (e : Err) := List.forall_mem_append.2 ⟨hi.2, A.errs new e h⟩
  have hns := notifySpends_inv A (addNew_inv A new hb hi.1)
  fetchStep_cases w h st new _
    (quit := A.fail (hnew _))
    (blockErr := A.fail (hnew _))
    (fetched := ⟨hns.1, List.forall_mem_append.2 ⟨hi.2, hns.2⟩⟩)

theorem stepH_inv (hf : FilterSound w) (h : Nat) (st : St) (hN : ∀ q ∈ newAt w h st, N q)
    (hi : HInv w J D h st) : (stepH w h st).Inv (HInv w J D) (fun r => ∀ d ∈ r.2.out, D d) h :=
  stepH_cases w h st _
    (quit := A.fail hi.2)
    (hashErr := A.fail hi.2)
    (filterErr := fun _ => A.fail hi.2)
    (noMatch := fun _ hv => by
      refine ⟨fun e hin => ⟨(hi.1 e hin).1.succ ?_, (hi.1 e hin).2⟩, hi.2⟩
      -- the filter said "no match", so no watched outpoint is spent at this height
      cases hs : spendIn (blockAt w.chain h) e.op with
      | none => rfl
      | some ti =>
        exact absurd hv (hf (st.k + 1) h (st.ents.map (·.op)) e.op (List.mem_map_of_mem hin) (hs ▸ Option.some_ne_none ti)))
    (matched := fun _ => fetchStep_inv A h (st3 w h st) [] (fun _ hq => (List.not_mem_nil hq).elim) hi)
    (dequeued := fetchStep_inv A h (st2 w h st) (newAt w h st) (fun q hq => ⟨mem_newAt hq, hN q hq⟩) hi)

variable {K : St → Prop} (hK : Invariant w K) (hKN : ∀ h st, K st → ∀ q ∈ newAt w h st, N q) (hf : FilterSound w)
include hK hKN hf

theorem scan_answers (fuel h endH : Nat) (st : St) (hle : h ≤ endH + 1) (hk : K st) (hi : HInv w J D h st) :
    ∀ d ∈ (scan w fuel h endH st).2.out, D d := by
  refine scan_inv w (fun h st => K st ∧ HInv w J D h st) (fun r => ∀ d ∈ r.2.out, D d) (fun _ _ hi => hi.2.2)
    (fun h st hi => ?_) (fun e st hi => List.forall_mem_append.2 ⟨hi.2.2, notifyUnspent_inv A hi.2.1⟩)
    fuel h endH st hle ⟨hk, hi⟩
  match stepH w h st, stepH_inv A hf h st (hKN h st hi.1) hi.2, hK.step h st hi.1 with
  | .cont _, h1, h2 => exact ⟨h2, h1⟩
  | .fail _, h1, _ => exact h1

/-- **every delivery of a run is acceptable**, on any reading `A` of "acceptable", given an invariant `K` of the
scanner from which what the reading needs to know of the dequeued requests follows -/
theorem run_answers (sf mf : Nat) (init : List Req) (h0 : K { pq := init }) :
    ∀ d ∈ (run w sf mf init).2.out, D d :=
  (mgr_inv w sf (fun st => K st ∧ ∀ d ∈ st.out, D d) (fun st hi => ⟨hK.merge st hi.1, hi.2⟩)
    (fun st hi => ⟨hK.stop st hi.1, List.forall_mem_append.2 ⟨hi.2, A.errs _ _ _⟩⟩)
    (fun fuel h e st hi hents hle => ⟨hK.scan fuel h e st (Nat.le_succ_of_le hle) hi.1,
      scan_answers A hK hKN hf fuel h e st (Nat.le_succ_of_le hle) hi.1
        ⟨fun _ he => (List.not_mem_nil (hents ▸ he)).elim, hi.2⟩⟩)
    mf { pq := init } ⟨h0, fun _ hd => (List.not_mem_nil hd).elim⟩ rfl).1.2

end

def OutOk (c : Chain) (out : List Deliv) : Prop := ∀ d ∈ out, delivOk c d

theorem OutOk.append {c : Chain} {a b : List Deliv} (ha : OutOk c a) (hb : OutOk c b) : OutOk c (a ++ b) :=
  List.forall_mem_append.2 ⟨ha, hb⟩

theorem delivOk_of_exact {c : Chain} {d : Deliv} (h : delivExact c d) : delivOk c d := by
  obtain ⟨q, res, u⟩ := d
  cases res with
  | err e => trivial
  | ok rep =>
    simp only [delivExact, answerExact, fate] at h
    simp only [delivOk, answerOk]
    cases hfs : firstSpendFrom c q.op q.birth (u + 1 - q.birth) with
    | none => rw [hfs] at h; exact .inl h
    | some x => rw [hfs] at h; exact h

/-- the stored initial report is the output as located in some block of the chain, or empty and then no member's
start block creates it -/
def InitOk (c : Chain) (e : Entry) : Prop :=
  (∀ q ∈ e.reqs, e.init = .empty → initialAt c q.birth e.op = .empty) ∧
  (e.init = .empty ∨ ∃ b, b < c.length ∧ e.init = initialAt c b e.op)

theorem answers_ok (w : World) : Answers w (InitOk w.chain) (delivOk w.chain) (fun _ => True) where
  exact _ := delivOk_of_exact
  fresh r _ := by
    refine ⟨fun q hq h0 => by rw [List.mem_singleton.1 hq]; exact h0, ?_⟩
    by_cases h0 : initialAt w.chain r.birth r.op = .empty
    · exact .inl h0
    · exact .inr ⟨r.birth, initialAt_ne_empty_lt _ _ _ h0, rfl⟩
  extend _ e r _ hop _ he := by
    by_cases h0 : initialAt w.chain r.birth r.op = .empty
    · simp only [mergeInit, if_pos h0]
      refine ⟨fun q hq h1 => ?_, he.2⟩
      rcases List.mem_append.1 hq with hq | hq
      · exact he.1 q hq h1
      · rw [List.mem_singleton.1 hq, hop]; exact h0
    · simp only [mergeInit, if_neg h0]
      exact ⟨fun _ _ h1 => absurd h1 h0, .inr ⟨r.birth, initialAt_ne_empty_lt _ _ _ h0, by rw [hop]⟩⟩
  unspent u e hs he q hq := by
    have hq' := hs q hq
    simp only [delivOk, answerOk]
    rw [hq'.1, firstSpendFrom_none' w.chain e.op q.birth u hq'.2.1 hq'.2.2]
    by_cases h0 : e.init = .empty
    · exact .inl (by rw [he.1 q hq h0]; exact h0)
    · exact .inr ⟨h0, he.2.resolve_left h0⟩

end Neutrino.Utxo
