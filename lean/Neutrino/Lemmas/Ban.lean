/-
Lemmas about the ban store: the association list, the To4 / To16 normal forms, the key under which a
network identity is stored (`NetId.key`: `encodeKey` factors through `netId`, injectively), and the store
calls in terms of a target's key.
-/
import Neutrino.Spec.Ban
namespace Neutrino.Ban

theorem lookup_del (rs : Recs) (k k2 : Bytes) : lookup (del rs k) k2 = if k = k2 then none else lookup rs k2 := by
  induction rs with
  | nil => exact (ite_self _).symm
  | cons p rest ih =>
    obtain ⟨k', v⟩ := p
    by_cases h : k' = k
    · rw [del, if_pos h, ih, lookup, h]
      by_cases h2 : k = k2
      · rw [if_pos h2, if_pos h2]
      · rw [if_neg h2, if_neg h2, if_neg h2]
    · rw [del, if_neg h, lookup, lookup, ih]
      by_cases h2 : k = k2
      · rw [if_pos h2, if_pos h2, if_neg (h2 ▸ h)]
      · rw [if_neg h2, if_neg h2]

theorem lookup_put (rs : Recs) (k : Bytes) (v : Int × Nat) (k2 : Bytes) :
    lookup (put rs k v) k2 = if k = k2 then some v else lookup rs k2 := by
  rw [put, lookup, lookup_del]
  by_cases h : k = k2
  · rw [if_pos h, if_pos h]
  · rw [if_neg h, if_neg h, if_neg h]

theorem lookup_del_some {rs : Recs} {k k2 : Bytes} {v : Int × Nat} (h : lookup (del rs k) k2 = some v) :
    lookup rs k2 = some v := by
  rw [lookup_del] at h
  split at h
  · cases h
  · exact h

theorem floorSec_le (x : Int) : x / 1000 * 1000 ≤ x := Int.ediv_mul_le x (by decide)

theorem lt_floorSec_iff {a b : Int} : a < b / 1000 * 1000 ↔ a / 1000 < b / 1000 :=
  (Int.ediv_lt_iff_lt_mul (by decide)).symm

theorem sub_lt_floorSec (x : Int) : x - 1000 < x / 1000 * 1000 := by
  have h := Int.lt_ediv_add_one_mul_self x (by decide : (0 : Int) < 1000)
  rw [Int.add_mul, Int.one_mul] at h
  exact Int.sub_right_lt_of_lt_add h

theorem v4Prefix_length : v4Prefix.length = 12 := rfl

theorem to4_some {ip a : Bytes} (h : to4 ip = some a) :
    a.length = 4 ∧ to16 ip = some (v4Prefix ++ a) := by
  by_cases h4 : ip.length = 4
  · rw [to4, if_pos h4] at h
    cases h
    exact ⟨h4, if_pos h4⟩
  · rw [to4, if_neg h4] at h
    by_cases h16 : ip.length = 16 ∧ ip.take 12 = v4Prefix
    · rw [if_pos h16] at h
      cases h
      rw [to16, if_neg h4, if_pos h16.1, ← h16.2, List.take_append_drop, List.length_drop, h16.1]
      exact ⟨rfl, rfl⟩
    · rw [if_neg h16] at h
      cases h

theorem to4_none {ip b : Bytes} (h : to4 ip = none) (hb : to16 ip = some b) :
    b = ip ∧ ip.length = 16 ∧ ip.take 12 ≠ v4Prefix := by
  by_cases h4 : ip.length = 4
  · rw [to4, if_pos h4] at h
    cases h
  · rw [to4, if_neg h4] at h
    rw [to16, if_neg h4] at hb
    by_cases h16 : ip.length = 16
    · rw [if_pos h16] at hb
      cases hb
      exact ⟨rfl, h16, fun hp => by rw [if_pos ⟨h16, hp⟩] at h; cases h⟩
    · rw [if_neg h16] at hb
      cases hb

theorem to16_none_of_to4 {ip : Bytes} (h : to16 ip = none) : to4 ip = none := by
  cases h4 : to4 ip with
  | none => rfl
  | some a => rw [(to4_some h4).2] at h; cases h

theorem to4_mapped {a : Bytes} (ha : a.length = 4) : to4 (v4Prefix ++ a) = some a := by
  have hl : (v4Prefix ++ a).length = 16 := by rw [List.length_append, ha]; rfl
  rw [to4, if_neg (by rw [hl]; decide), if_pos ⟨hl, List.take_left' v4Prefix_length⟩,
    List.drop_left' v4Prefix_length]

theorem to16_length {ip b : Bytes} (h : to16 ip = some b) : b.length = 16 := by
  by_cases h4 : ip.length = 4
  · rw [to16, if_pos h4] at h
    cases h
    rw [List.length_append, h4]
    rfl
  · rw [to16, if_neg h4] at h
    by_cases h16 : ip.length = 16
    · rw [if_pos h16] at h
      cases h
      exact h16
    · rw [if_neg h16] at h
      cases h

/-- The bbolt key of a network: an address with a 4-byte form is stored in that form. -/
def NetId.key (id : NetId) : Bytes :=
  if id.ip16.take 12 = v4Prefix then 0 :: (id.ip16.drop 12 ++ id.mask) else 1 :: (id.ip16 ++ id.mask)

theorem encodeKey_eq (ip m : Bytes) : encodeKey ip m = (netId ip m).map NetId.key := by
  unfold encodeKey netId
  cases h4 : to4 ip with
  | some a =>
    rw [(to4_some h4).2]
    exact congrArg some
      (by rw [NetId.key, if_pos (List.take_left' v4Prefix_length), List.drop_left' v4Prefix_length])
  | none =>
    cases h16 : to16 ip with
    | none => rfl
    | some b =>
      obtain ⟨rfl, -, hp⟩ := to4_none h4 h16
      exact congrArg some (by rw [NetId.key, if_neg hp])

theorem netId_eq_some {ip m : Bytes} {id : NetId} (h : netId ip m = some id) : to16 ip = some id.ip16 ∧ m = id.mask := by
  unfold netId at h
  cases h16 : to16 ip with
  | none => rw [h16] at h; cases h
  | some a => rw [h16] at h; cases h; exact ⟨rfl, rfl⟩

theorem netId_length {ip m : Bytes} {id : NetId} (h : netId ip m = some id) : id.ip16.length = 16 :=
  to16_length (netId_eq_some h).1

theorem netId_of_key {ip m k : Bytes} (h : encodeKey ip m = some k) : ∃ id, netId ip m = some id ∧ id.key = k := by
  rw [encodeKey_eq] at h
  cases hi : netId ip m with
  | none => rw [hi] at h; cases h
  | some id => rw [hi] at h; exact ⟨id, rfl, Option.some.inj h⟩

theorem NetId.key_inj {a b : NetId} (ha : a.ip16.length = 16) (hb : b.ip16.length = 16) (h : a.key = b.key) :
    a = b := by
  obtain ⟨a16, am⟩ := a
  obtain ⟨b16, bm⟩ := b
  unfold NetId.key at h
  simp only at ha hb h
  split at h <;> split at h
  next pa pb =>
    -- both in the 4-byte form: the tails and masks agree, and both heads are `v4Prefix`
    obtain ⟨hd, hm⟩ := List.append_inj (List.cons.inj h).2 (by rw [List.length_drop, List.length_drop, ha, hb])
    rw [← List.take_append_drop 12 a16, ← List.take_append_drop 12 b16, pa, pb, hd, hm]
  next => cases h
  next => cases h
  next =>
    obtain ⟨h16, hm⟩ := List.append_inj (List.cons.inj h).2 (ha.trans hb.symm)
    rw [h16, hm]

theorem key_eq_iff_id_eq {ip m ip' m' k k' : Bytes} {id id' : NetId}
    (hk : encodeKey ip m = some k) (hk' : encodeKey ip' m' = some k')
    (hi : netId ip m = some id) (hi' : netId ip' m' = some id') :
    k = k' ↔ id = id' := by
  rw [encodeKey_eq, hi] at hk
  rw [encodeKey_eq, hi'] at hk'
  cases hk; cases hk'
  exact ⟨NetId.key_inj (netId_length hi) (netId_length hi'), congrArg NetId.key⟩

theorem encodeKey_congr {ip ip' : Bytes} (m : Bytes) (h : to16 ip = to16 ip') : encodeKey ip m = encodeKey ip' m := by
  rw [encodeKey_eq, encodeKey_eq, netId, netId, h]

theorem encodeKey_inj {ip m ip' m' k : Bytes} (hk : encodeKey ip m = some k) (hk' : encodeKey ip' m' = some k) :
    to16 ip = to16 ip' ∧ (to16 ip).isSome = true ∧ m = m' := by
  obtain ⟨id, hi, rfl⟩ := netId_of_key hk
  obtain ⟨id', hi', hkk⟩ := netId_of_key hk'
  cases NetId.key_inj (netId_length hi') (netId_length hi) hkk
  have a := netId_eq_some hi
  have b := netId_eq_some hi'
  exact ⟨a.1.trans b.1.symm, a.1 ▸ rfl, a.2.trans b.2.symm⟩

theorem keyOf_eq_some {tg : Target} {k : Bytes} (h : keyOf tg = some k) :
    ∃ ip m, resolve tg = some (ip, m) ∧ encodeKey ip m = some k := by
  unfold keyOf at h
  cases hr : resolve tg with
  | none => rw [hr] at h; cases h
  | some p => rw [hr] at h; exact ⟨p.1, p.2, rfl, h⟩

theorem keyOf_eq_none {tg : Target} (h : keyOf tg = none) :
    resolve tg = none ∨ ∃ ip m, resolve tg = some (ip, m) ∧ encodeKey ip m = none := by
  unfold keyOf at h
  cases hr : resolve tg with
  | none => exact Or.inl rfl
  | some p => rw [hr] at h; exact Or.inr ⟨p.1, p.2, rfl, h⟩

/-- What a call on an unsupported target answers. -/
def errOf (tg : Target) : Out :=
  match resolve tg with
  | none => .errParse
  | some _ => .errEncode

variable (s : State) (t : Int) {tg : Target} {k : Bytes}

theorem step_ban_some (r : Nat) (d : Int) (h : keyOf tg = some k) :
    step s t (.ban tg r d) = ({ recs := put s.recs k ((t + d) / 1000, r) }, .ok) := by
  obtain ⟨ip, m, hr, hk⟩ := keyOf_eq_some h
  simp only [step, hr, hk]

theorem step_unban_some (h : keyOf tg = some k) : step s t (.unban tg) = ({ recs := del s.recs k }, .ok) := by
  obtain ⟨ip, m, hr, hk⟩ := keyOf_eq_some h
  simp only [step, hr, hk]

theorem step_status_some (h : keyOf tg = some k) :
    step s t (.status tg) =
      match lookup s.recs k with
      | none => (s, .notBanned)
      | some v => if t ≥ v.1 * 1000 then ({ recs := del s.recs k }, .notBanned) else (s, .banned v.2 (v.1 * 1000)) := by
  obtain ⟨ip, m, hr, hk⟩ := keyOf_eq_some h
  simp only [step, hr, hk]
  cases lookup s.recs k <;> rfl

theorem step_ban_none (r : Nat) (d : Int) (h : keyOf tg = none) : step s t (.ban tg r d) = (s, errOf tg) := by
  rcases keyOf_eq_none h with hr | ⟨ip, m, hr, hk⟩
  · simp only [step, errOf, hr]
  · simp only [step, errOf, hr, hk]

theorem step_unban_none (h : keyOf tg = none) : step s t (.unban tg) = (s, errOf tg) := by
  rcases keyOf_eq_none h with hr | ⟨ip, m, hr, hk⟩
  · simp only [step, errOf, hr]
  · simp only [step, errOf, hr, hk]

theorem step_status_none (h : keyOf tg = none) : step s t (.status tg) = (s, errOf tg) := by
  rcases keyOf_eq_none h with hr | ⟨ip, m, hr, hk⟩
  · simp only [step, errOf, hr]
  · simp only [step, errOf, hr, hk]

end Neutrino.Ban
