/-
Accounting invariant behind `C12_success_all`: a live batch's `rem` counter is
the number of its jobs that are in the queue, held by a worker, or lost with an
overwritten worker; job indices are pairwise distinct; every request index of a
live batch is either finished OK or still carried by such a job.
-/
import Neutrino.Lemmas.DispatcherVerdicts
namespace Neutrino.Disp

def actives (ws : List Worker) : List Job := ws.filterMap (·.active)
def jobsOf (s : State) : List Job := s.work ++ (actives s.workers ++ s.lost)

/-- what the accounting looks at in a job: its index and the batch it was created for -/
def key (j : Job) : Nat × Nat := (j.idx, j.batch)

/-- `K`: the keys of the jobs that exist (in any order) -/
structure KP (K : List (Nat × Nat)) (bs : List Batch) (q : List (Nat × Nat)) (okd : List Nat)
    (subs : List Sub) (vs : List (Nat × Verdict)) (nq nb : Nat) : Prop where
  nodup  : (K.map (·.1)).Nodup
  bound  : ∀ k ∈ K, k.1 < nq ∧ k.2 < nb
  qmap   : ∀ k ∈ K, q.lookup k.1 = some k.2
  rem    : ∀ bp ∈ bs, bp.rem = (K.filter (fun k => k.2 == bp.id)).length
  cover  : ∀ sub ∈ subs, sub.id ∈ bs.map (·.id) → ∀ i, sub.first ≤ i → i < sub.first + sub.count →
             i ∈ okd ∨ (i, sub.id) ∈ K
  done   : ∀ sub ∈ subs, (sub.id, Verdict.res .ok) ∈ vs → ∀ i, sub.first ≤ i → i < sub.first + sub.count →
             i ∈ okd

def Twin (bs' bs : List Batch) : Prop := ∀ bp' ∈ bs', ∃ bp ∈ bs, bp.id = bp'.id ∧ bp.rem = bp'.rem

theorem twin_refl (bs : List Batch) : Twin bs bs := fun bp h => ⟨bp, h, rfl, rfl⟩

theorem twin_delB (bs : List Batch) (b : Nat) : Twin (delB bs b) bs :=
  fun bp h => ⟨bp, (mem_delB.mp h).1, rfl, rfl⟩

theorem twin_update (f : Batch → Batch) (hf : ∀ x, (f x).id = x.id ∧ (f x).rem = x.rem) (bs : List Batch)
    (b : Nat) : Twin (bs.map (fun x => if x.id == b then f x else x)) bs := by
  intro bp' h
  obtain ⟨x, hx, rfl⟩ := List.mem_map.mp h
  refine ⟨x, hx, ?_⟩
  split
  · exact ⟨(hf x).1.symm, (hf x).2.symm⟩
  · exact ⟨rfl, rfl⟩

theorem twin_bumpGen (bs : List Batch) (b : Nat) : Twin (bumpGen bs b) bs :=
  twin_update (fun x => { x with gen := x.gen + 1 }) (fun _ => ⟨rfl, rfl⟩) bs b

theorem twin_setHard (bs : List Batch) (b : Nat) : Twin (setHard bs b) bs :=
  twin_update (fun x => { x with hardPassed := true }) (fun _ => ⟨rfl, rfl⟩) bs b

theorem twin_ids {bs' bs : List Batch} (h : Twin bs' bs) {b : Nat} (hb : b ∈ bs'.map (·.id)) :
    b ∈ bs.map (·.id) := by
  obtain ⟨bp', hm, rfl⟩ := List.mem_map.mp hb
  obtain ⟨bp, hm2, hid, _⟩ := h bp' hm
  exact List.mem_map.mpr ⟨bp, hm2, hid⟩

/-- Nothing about the jobs changes except their arrangement (a re-queued job keeps its key); batches only
disappear; the queries map may be rewritten as long as it reads the same; no new nil verdict. -/
theorem KP_mono {K K' bs bs' q q' okd okd' subs vs vs' nq nb}
    (k : KP K bs q okd subs vs nq nb) (hp : K'.Perm K) (ht : Twin bs' bs)
    (hq : ∀ x ∈ K, q'.lookup x.1 = q.lookup x.1) (hok : ∀ x ∈ okd, x ∈ okd')
    (hvs : ∀ b, (b, Verdict.res .ok) ∈ vs' → (b, Verdict.res .ok) ∈ vs) :
    KP K' bs' q' okd' subs vs' nq nb where
  nodup := (hp.map _).nodup_iff.mpr k.nodup
  bound x hx := k.bound x (hp.mem_iff.mp hx)
  qmap x hx := (hq x (hp.mem_iff.mp hx)).trans (k.qmap x (hp.mem_iff.mp hx))
  rem bp' hbp' := by
    obtain ⟨bp, hm, hid, hr⟩ := ht bp' hbp'
    rw [← hr, k.rem bp hm, hid, (hp.filter _).length_eq]
  cover sub hs hid i h1 h2 :=
    (k.cover sub hs (twin_ids ht hid) i h1 h2).imp (hok i) hp.mem_iff.mpr
  done sub hs hv i h1 h2 := hok _ (k.done sub hs (hvs _ hv) i h1 h2)

/-- A job (index `j`, batch `c`) leaves for good: its result was OK (`j` is then in `okd'` and its batch, if it stays
live, counts one less), or its batch has ended or ends with this result.  A nil verdict is new only for the job's own
batch, whose counter stood at 1. -/
theorem KP_take {K K' bs bs' q okd okd' subs vs vs' nq nb} {j c : Nat}
    (k : KP K bs q okd subs vs nq nb) (hp : K.Perm ((j, c) :: K'))
    (hbs : ∀ bp' ∈ bs', ∃ bp ∈ bs, bp.id = bp'.id ∧
      if bp'.id = c then bp'.rem = bp.rem - 1 ∧ j ∈ okd' else bp'.rem = bp.rem)
    (hok : ∀ i ∈ okd, i ∈ okd')
    (hvs : ∀ b, (b, Verdict.res .ok) ∈ vs' → (b, Verdict.res .ok) ∈ vs ∨
      (b = c ∧ j ∈ okd' ∧ ∃ bp ∈ bs, bp.id = b ∧ bp.rem = 1)) :
    KP K' bs' (q.filter (fun y => y.1 != j)) okd' subs vs' nq nb := by
  have hnd : j ∉ K'.map (·.1) ∧ (K'.map (·.1)).Nodup := List.nodup_cons.mp ((hp.map _).nodup_iff.mp k.nodup)
  have hsub : ∀ y ∈ K', y ∈ K := fun y hy => hp.mem_iff.mpr (List.mem_cons_of_mem _ hy)
  have hcount (b : Nat) : (K.filter (fun y => y.2 == b)).length =
      (K'.filter (fun y => y.2 == b)).length + if c = b then 1 else 0 := by
    rw [(hp.filter _).length_eq, List.filter_cons]
    by_cases hb : c = b
    · rw [if_pos (beq_iff_eq.mpr hb), if_pos hb]; rfl
    · rw [if_neg (mt beq_iff_eq.mp hb), if_neg hb]; rfl
  refine ⟨hnd.2, fun y hy => k.bound y (hsub y hy), fun y hy => ?_, fun bp' hbp' => ?_,
    fun sub hs hid i h1 h2 => ?_, fun sub hs hv i h1 h2 => ?_⟩
  · rw [lookup_filter_ne _ fun e => hnd.1 (List.mem_map.mpr ⟨y, hy, e⟩)]
    exact k.qmap y (hsub y hy)
  · obtain ⟨bp, hm, hid, hr⟩ := hbs bp' hbp'
    have hc := hcount bp.id
    rw [← k.rem bp hm] at hc
    rw [← hid] at hr ⊢
    by_cases hb : c = bp.id
    · rw [if_pos hb.symm] at hr; rw [if_pos hb] at hc; rw [hr.1, hc]; rfl
    · rw [if_neg (Ne.symm hb)] at hr; rw [if_neg hb] at hc; rw [hr, hc]; rfl
  · obtain ⟨bp', hm', hid'⟩ := List.mem_map.mp hid
    obtain ⟨bp, hm, hbid, hr⟩ := hbs bp' hm'
    cases k.cover sub hs (List.mem_map.mpr ⟨bp, hm, hbid.trans hid'⟩) i h1 h2 with
    | inl h => exact .inl (hok i h)
    | inr h =>
      cases List.mem_cons.mp (hp.mem_iff.mp h) with
      | inr h => exact .inr h
      | inl h =>
        cases h
        rw [if_pos hid'] at hr
        exact .inl hr.2
  · cases hvs _ hv with
    | inl h => exact hok i (k.done sub hs h i h1 h2)
    | inr h =>
      obtain ⟨hb, hx, bp, hm, hbid, hr⟩ := h
      have hc := hcount sub.id
      rw [← hbid, ← k.rem bp hm, hr, hbid, if_pos hb.symm] at hc
      cases k.cover sub hs (List.mem_map.mpr ⟨bp, hm, hbid⟩) i h1 h2 with
      | inl h => exact hok i h
      | inr h =>
        cases List.mem_cons.mp (hp.mem_iff.mp h) with
        | inl h => cases h; exact hx
        | inr h =>
          have hnil : K'.filter (fun y => y.2 == sub.id) = [] := List.eq_nil_of_length_eq_zero (Nat.succ.inj hc.symm)
          exact absurd (hnil ▸ List.mem_filter.mpr ⟨h, beq_self_eq_true sub.id⟩) List.not_mem_nil

theorem newJobs_eq (b : Nat) : ∀ n f, newJobs b f n =
    (List.range' f n).map (fun i => ⟨i, b, 0, Gen.Dispatcher.minQueryTimeoutSec⟩)
  | 0, _ => rfl
  | n + 1, f => by rw [newJobs, List.range'_succ, List.map_cons, newJobs_eq b n]

theorem lookup_const_append (l : List Nat) (b : Nat) (q : List (Nat × Nat)) (i : Nat) :
    ((l.map (·, b)) ++ q).lookup i = if i ∈ l then some b else q.lookup i := by
  induction l with
  | nil => rfl
  | cons a l ih =>
    rw [List.map_cons, List.cons_append, List.lookup_cons, ih]
    by_cases h : i = a
    · rw [h, beq_self_eq_true, if_pos List.mem_cons_self]
    · rw [beq_false_of_ne h]
      simp only [List.mem_cons, h, false_or]

theorem KP_new {K K' bs q okd subs vs nq nb} (n : Nat) (nbp : Batch)
    (k : KP K bs q okd subs vs nq nb) (hp : K'.Perm ((newJobs nb nq n).map key ++ K))
    (hid : nbp.id = nb) (hrem : nbp.rem = n)
    (hbs : ∀ bp ∈ bs, bp.id < nb) (hsubs : ∀ sub ∈ subs, sub.id < nb) (hvs : ∀ v, (nb, v) ∉ vs) :
    KP K' (bs ++ [nbp]) ((newJobs nb nq n).map (fun j => (j.idx, nb)) ++ q) okd (subs ++ [⟨nb, nq, n⟩]) vs
      (nq + n) (nb + 1) := by
  -- the new jobs' keys, which are also their `queries` entries: indices `nq … nq+n-1`, all of batch `nb`
  have hN (f : Job → Nat × Nat) (hf : ∀ i, f ⟨i, nb, 0, Gen.Dispatcher.minQueryTimeoutSec⟩ = (i, nb)) :
      (newJobs nb nq n).map f = (List.range' nq n).map (·, nb) := by
    rw [newJobs_eq, List.map_map]; exact List.map_congr_left fun i _ => hf i
  rw [hN key fun _ => rfl] at hp
  rw [hN _ fun _ => rfl]
  have hmem (x : Nat × Nat) : x ∈ K' ↔ (x.2 = nb ∧ nq ≤ x.1 ∧ x.1 < nq + n) ∨ x ∈ K := by
    rw [hp.mem_iff, List.mem_append, List.mem_map]
    refine or_congr_left ⟨fun ⟨i, hi, e⟩ => e ▸ ⟨rfl, List.mem_range'_1.mp hi⟩,
      fun ⟨e, hi⟩ => ⟨x.1, List.mem_range'_1.mpr hi, e ▸ rfl⟩⟩
  refine ⟨?nodup, fun x hx => ?bound, fun x hx => ?qmap, fun bp hbp => ?rem, fun sub hs hin i h1 h2 => ?cover,
    fun sub hs hv i h1 h2 => ?done⟩
  case nodup =>
    have hfst : ((List.range' nq n).map (·, nb)).map (·.1) = List.range' nq n :=
      List.map_map.trans (List.map_id' _)
    refine (hp.map _).nodup_iff.mpr ?_
    rw [List.map_append, hfst, List.nodup_append]
    refine ⟨List.nodup_range' .., k.nodup, fun a ha b hb hab => ?_⟩
    obtain ⟨y, hy, rfl⟩ := List.mem_map.mp hb
    exact Nat.not_le.mpr (k.bound y hy).1 (hab ▸ (List.mem_range'_1.mp ha).1)
  case bound =>
    cases (hmem x).mp hx with
    | inl h => exact ⟨h.2.2, h.1 ▸ Nat.lt_succ_self nb⟩
    | inr h => exact ⟨Nat.lt_of_lt_of_le (k.bound x h).1 (Nat.le_add_right ..), Nat.lt_succ_of_lt (k.bound x h).2⟩
  case qmap =>
    rw [lookup_const_append]
    cases (hmem x).mp hx with
    | inl h => rw [if_pos (List.mem_range'_1.mpr h.2), h.1]
    | inr h =>
      rw [if_neg fun c => Nat.not_le.mpr (k.bound x h).1 (List.mem_range'_1.mp c).1]
      exact k.qmap x h
  case rem =>
    rw [(hp.filter _).length_eq, List.filter_append, List.length_append]
    cases List.mem_append.mp hbp with
    | inl h =>
      rw [List.filter_eq_nil_iff.mpr, k.rem bp h]; · exact (Nat.zero_add _).symm
      intro x hx
      obtain ⟨i, _, rfl⟩ := List.mem_map.mp hx
      exact mt beq_iff_eq.mp (Nat.ne_of_gt (hbs bp h))
    | inr h =>
      cases List.mem_singleton.mp h
      rw [List.filter_eq_self.mpr, List.filter_eq_nil_iff.mpr, List.length_map, List.length_range', hrem]
      · rfl
      · exact fun x hx => mt beq_iff_eq.mp (hid.symm ▸ Nat.ne_of_lt (k.bound x hx).2)
      · intro x hx
        obtain ⟨i, _, rfl⟩ := List.mem_map.mp hx
        exact beq_iff_eq.mpr hid.symm
  case cover =>
    cases List.mem_append.mp hs with
    | inl h =>
      rw [List.map_append, List.mem_append, List.map_singleton, List.mem_singleton, hid] at hin
      exact (k.cover sub h (hin.resolve_right (Nat.ne_of_lt (hsubs sub h))) i h1 h2).imp_right
        fun x => (hmem _).mpr (.inr x)
    | inr h =>
      cases List.mem_singleton.mp h
      exact .inr ((hmem _).mpr (.inl ⟨rfl, h1, h2⟩))
  case done =>
    cases List.mem_append.mp hs with
    | inl h => exact k.done sub h hv i h1 h2
    | inr h => cases List.mem_singleton.mp h; exact absurd hv (hvs _)

theorem actives_cons (x : Worker) (xs : List Worker) :
    actives (x :: xs) = x.active.toList ++ actives xs := by
  rw [actives, List.filterMap_cons]
  cases x.active <;> rfl

/-- what the bookkeeping has the worker of address `p` holding -/
def held (ws : List Worker) (p : Nat) : List Job := ((findW ws p).bind (·.active)).toList

theorem held_of_findW {ws : List Worker} {p : Nat} {w : Worker} (h : findW ws p = some w) :
    held ws p = w.active.toList := by
  rw [held, h]; rfl

theorem findW_of_mem {ws : List Worker} (hn : (ws.map (·.addr)).Nodup) {w : Worker} (hw : w ∈ ws) :
    findW ws w.addr = some w := by
  induction ws with
  | nil => exact absurd hw List.not_mem_nil
  | cons x xs ih =>
    rw [List.map_cons, List.nodup_cons] at hn
    rw [findW, List.find?_cons]
    cases List.mem_cons.mp hw with
    | inl h => rw [h, beq_self_eq_true]
    | inr h =>
      rw [beq_false_of_ne fun e => hn.1 (List.mem_map.mpr ⟨w, h, e.symm⟩)]
      exact ih hn.2 h

theorem actives_split {ws : List Worker} (hn : (ws.map (·.addr)).Nodup) (p : Nat) :
    (actives ws).Perm (held ws p ++ actives (ws.filter (fun x => x.addr != p))) := by
  cases hw : findW ws p with
  | none =>
    rw [held, hw, List.filter_eq_self.mpr fun x hx => bne_iff_ne.mpr (findW_none hw x hx)]
    exact .refl _
  | some w =>
    have h := (perm_cons_filter (·.addr) hn (List.mem_of_find?_eq_some hw)).filterMap (·.active)
    rwa [findW_addr hw, ← actives, ← actives, actives_cons, ← held_of_findW hw] at h

/-- replacing the worker of an address trades what the old one held for what the new one holds -/
theorem actives_setW {ws : List Worker} (hn : (ws.map (·.addr)).Nodup) (w' : Worker) :
    (held ws w'.addr ++ actives (setW ws w')).Perm (w'.active.toList ++ actives ws) := by
  rw [setW, actives_cons]
  exact (List.perm_append_comm_assoc ..).trans ((actives_split hn _).symm.append_left _)

theorem nodup_setW (ws : List Worker) (w' : Worker) (hn : (ws.map (·.addr)).Nodup) :
    ((setW ws w').map (·.addr)).Nodup := by
  rw [setW, List.map_cons, List.nodup_cons]
  refine ⟨fun hm => ?_, (List.filter_sublist.map _).nodup hn⟩
  obtain ⟨x, hx, hxe⟩ := List.mem_map.mp hm
  exact bne_iff_ne.mp (List.mem_filter.mp hx).2 hxe

structure KW (s : State) : Prop where
  k  : KP ((jobsOf s).map key) s.batches s.queries s.okd s.subs s.verdicts s.nextQuery s.nextBatch
  wn : (s.workers.map (·.addr)).Nodup
  sb : ∀ sub ∈ s.subs, sub.id < s.nextBatch

theorem KW.idx_nodup {s : State} (h : KW s) : ((jobsOf s).map (·.idx)).Nodup :=
  (List.map_map ▸ h.k.nodup : ((jobsOf s).map ((·.1) ∘ key)).Nodup)

theorem KW_rearrange {s : State} (h : KW s) {wk l : List Job} {ws : List Worker}
    (hp : (wk ++ (actives ws ++ l)).Perm (jobsOf s)) (hwn : (ws.map (·.addr)).Nodup) :
    KW { s with work := wk, workers := ws, lost := l } :=
  ⟨KP_mono h.k (hp.map key) (twin_refl _) (fun _ _ => rfl) (fun _ x => x) (fun _ x => x), hwn, h.sb⟩

theorem KW_batches {s : State} (h : KW s) {bs : List Batch} (ht : Twin bs s.batches) : KW { s with batches := bs } :=
  ⟨KP_mono h.k (.refl _) ht (fun _ _ => rfl) (fun _ x => x) (fun _ x => x), h.wn, h.sb⟩

theorem ok_of_append_nonok {vs : List (Nat × Verdict)} {b b' : Nat} {v : Verdict} (hv : v ≠ .res .ok)
    (h : (b', Verdict.res .ok) ∈ vs ++ [(b, v)]) : (b', Verdict.res .ok) ∈ vs :=
  (List.mem_append.mp h).resolve_right fun h => hv (Prod.mk.inj (List.mem_singleton.mp h)).2.symm

theorem KW_emit_nonok {s : State} (h : KW s) (b : Nat) {v : Verdict} (hv : v ≠ .res .ok) : KW (emit s b v) :=
  ⟨KP_mono h.k (.refl _) (twin_delB _ _) (fun _ _ => rfl) (fun _ x => x) (fun _ x => ok_of_append_nonok hv x),
   h.wn, h.sb⟩

theorem KW_hardCheck {s : State} (h : KW s) (bn : Nat) (bp : Batch) (pr : Bool) (outs : List Out) :
    KW (hardCheck s bn bp pr outs).1 :=
  hardCheck_cases (fun r => KW r.1) (fun _ => KW_emit_nonok h _ (by decide)) (KW_batches h (twin_bumpGen _ _)) h

theorem jobs_taken {s : State} (hn : (s.workers.map (·.addr)).Nodup) {p : Nat} {w : Worker} {job : Job}
    (hw : findW s.workers p = some w) (ha : w.active = some job) :
    (jobsOf s).Perm (job :: jobsOf (taken s w job)) := by
  cases findW_addr hw
  have h := actives_setW hn { w with active := none }
  rw [held_of_findW hw, ha] at h
  exact ((h.symm.append_right _).append_left _).trans List.perm_middle

theorem KW_stepResult {s : State} (h : KW s) (p : Nat) (e : Err) : KW (stepResult s p e).1 := by
  cases hw : findW s.workers p with
  | none => rw [stepResult_unknown hw]; exact h
  | some w =>
    cases ha : w.active with
    | none => rw [stepResult_idle hw ha]; exact h
    | some job =>
      have hperm := (jobs_taken h.wn hw ha).map key
      have hbn : (s.queries.lookup job.idx).getD 0 = job.batch :=
        congrArg (·.getD 0) (h.k.qmap _ (hperm.mem_iff.mpr List.mem_cons_self))
      have hwn := nodup_setW _ { w with active := none } h.wn
      -- the job leaves for good: what each arm has to say about its batches, `okd` and verdicts
      have take {bs' okd' vs'} (r : List (Nat × Nat)) hbs hok hvs :
          KW { taken s w job with batches := bs', okd := okd', verdicts := vs', rank := r } :=
        ⟨KP_take h.k hperm hbs hok hvs, hwn, h.sb⟩
      cases hf : findB s.batches job.batch with
      | none =>
        rw [stepResult_ended hw ha hbn hf]
        exact take s.rank (fun bp' hm => ⟨bp', hm, rfl, (if_neg (findB_none hf bp' hm)).mpr rfl⟩)
          (fun _ x => x) (fun _ hv => .inl hv)
      | some bp =>
        obtain ⟨hbpm, hbpid⟩ := findB_some hf
        -- the batch ends with a verdict other than nil
        have ends (r : List (Nat × Nat)) {v : Verdict} (hv : v ≠ .res .ok) :
            KW (emit { taken s w job with rank := r } job.batch v) :=
          take r (fun bp' hm => ⟨bp', (mem_delB.mp hm).1, rfl, (if_neg (mem_delB.mp hm).2).mpr rfl⟩) (fun _ x => x)
            (fun _ hv' => .inl (ok_of_append_nonok hv hv'))
        by_cases he : e = .ok
        · rw [he, stepResult_ok hw ha hbn hf]
          have hbs : ∀ bp' ∈ setRem s.batches job.batch (bp.rem - 1), ∃ x ∈ s.batches, x.id = bp'.id ∧
              if bp'.id = job.batch then bp'.rem = x.rem - 1 ∧ job.idx ∈ job.idx :: s.okd
              else bp'.rem = x.rem := by
            intro bp' hm
            obtain ⟨x, hx, rfl⟩ := List.mem_map.mp hm
            refine ⟨x, hx, ?_⟩
            by_cases hb : x.id = job.batch
            · rw [if_pos (beq_iff_eq.mpr hb)]
              refine ⟨rfl, (if_pos hb).mpr ⟨?_, List.mem_cons_self⟩⟩
              show bp.rem - 1 = x.rem - 1
              rw [h.k.rem x hx, h.k.rem bp hbpm, hb, hbpid]
            · rw [if_neg (mt beq_iff_eq.mp hb)]; exact ⟨rfl, (if_neg hb).mpr rfl⟩
          refine if_elim (fun r => KW r.1) (fun hr => ?_) (fun _ => KW_hardCheck ?_ ..)
          · refine take _ (fun bp' hm => hbs bp' (mem_delB.mp hm).1) (fun _ => List.mem_cons_of_mem _)
              (fun b hv => (List.mem_append.mp hv).imp_right fun hv => ?_)
            cases List.mem_singleton.mp hv
            exact ⟨rfl, List.mem_cons_self, bp, hbpm, hbpid, beq_iff_eq.mp hr⟩
          · exact take _ hbs (fun _ => List.mem_cons_of_mem _) (fun _ hv => .inl hv)
        by_cases he' : e = .canceled
        · rw [he', stepResult_canceled hw ha hbn hf]; exact ends s.rank (by decide)
        · rw [stepResult_failed hw ha hbn hf he he']
          refine if_elim (fun r => KW r.1) (fun _ => ends _ fun c => he (Verdict.res.inj c))
            (fun _ => KW_hardCheck ?_ ..)
          -- back onto the heap: the same key, and `queries` reads as before
          refine ⟨KP_mono h.k ?_ (twin_refl _) (fun x hx => ?_) (fun _ x => x) (fun _ x => x), hwn, h.sb⟩
          · exact (((insertJob_perm ..).append_right _).map key).trans hperm.symm
          · rw [List.lookup_cons]
            by_cases hx1 : x.1 = job.idx
            · rw [hx1, beq_self_eq_true]
              exact (h.k.qmap _ (hperm.mem_iff.mpr List.mem_cons_self)).symm
            · rw [beq_false_of_ne hx1]; exact lookup_filter_ne _ hx1

theorem KW_stepExit {s : State} (h : KW s) (p : Nat) : KW (stepExit s p).1 := by
  refine stepExit_cases (fun r => KW r.1) (fun _ => h) fun w hw => ?_
  refine KW_rearrange h (.append_left _ (.append_right _ ?_)) (nodup_setW _ _ h.wn)
  cases findW_addr hw
  have hs := actives_setW h.wn { w with exited := true }
  rw [held_of_findW hw] at hs
  exact (List.perm_append_left_iff _).mp hs

theorem stepPeer_lost (s : State) (p : Nat) : (stepPeer s p).1.lost = held s.workers p ++ s.lost := by
  unfold stepPeer held
  cases findW s.workers p with
  | none => rfl
  | some w => obtain ⟨_, _ | _, _⟩ := w <;> rfl

/-- a (re)connecting peer: what the overwritten worker held is now in `lost` -/
theorem KW_stepPeer {s : State} (h : KW s) (p : Nat) : KW (stepPeer s p).1 := by
  have hp : (s.work ++ (actives (setW s.workers ⟨p, none, false⟩) ++ (held s.workers p ++ s.lost))).Perm
      (jobsOf s) :=
    .append_left _ ((perm_swap_assoc ..).trans ((actives_setW h.wn ⟨p, none, false⟩).append_right _))
  have hk := KW_rearrange (s := { s with rank := addPeer s.rank p }) ⟨h.k, h.wn, h.sb⟩ hp (nodup_setW _ _ h.wn)
  rwa [← stepPeer_lost] at hk

theorem KW_stepAccept {s : State} (h : KW s) (p : Nat) : KW (stepAccept s p).1 := by
  refine stepAccept_cases (fun r => KW r.1) h fun job rest hwk hb => ?_
  obtain ⟨⟨w, hwm, hwa⟩, _⟩ := bestFree_iff.mp hb
  obtain ⟨hwm, hfree⟩ := List.mem_filter.mp hwm
  have hw : findW s.workers p = some w := hwa ▸ findW_of_mem h.wn hwm
  have hs := actives_setW h.wn ⟨p, some job, false⟩
  rw [held_of_findW hw, Option.isNone_iff_eq_none.mp (Bool.and_eq_true_iff.mp hfree).1] at hs
  refine KW_rearrange h ?_ (nodup_setW _ _ h.wn)
  rw [jobsOf, hwk]
  exact ((hs.append_right _).append_left _).trans List.perm_middle

theorem sb_snoc {subs : List Sub} {nb : Nat} (h : ∀ sub ∈ subs, sub.id < nb) (f n : Nat) :
    ∀ sub ∈ subs ++ [⟨nb, f, n⟩], sub.id < nb + 1 := by
  intro sub hs
  cases List.mem_append.mp hs with
  | inl x => exact Nat.lt_succ_of_lt (h sub x)
  | inr x => cases List.mem_singleton.mp x; exact Nat.lt_succ_self _

theorem KW_stepNewBatch {s : State} (h : KW s) (a : InvA (abs s)) (n : Nat) (nrm : Bool) (mr : Nat)
    (pr hn : Bool) : KW (stepNewBatch s n nrm mr pr hn).1 := by
  refine ⟨?_, h.wn, fun sub hs => ?_⟩
  · refine KP_new n _ h.k ?_ rfl rfl (fun bp hbp => ?_) h.sb (fun v hv => ?_)
    · rw [← List.map_append]
      exact (((pushAll_perm ..).append_right _).trans (.of_eq (List.append_assoc ..))).map key
    · exact (a.lt_iff bp.id).mpr (.inl (List.mem_map_of_mem hbp))
    · exact Nat.lt_irrefl _ ((a.lt_iff _).mpr (.inr (List.mem_map.mpr ⟨_, hv, rfl⟩)))
  · exact sb_snoc h.sb _ _ sub hs

theorem KW_stepWake {s : State} (h : KW s) (b g : Nat) : KW (stepWake s b g).1 :=
  stepWake_cases (fun r => KW r.1) h fun _ _ _ => KW_emit_nonok h _ (by decide)

theorem KW_stepQuit {s : State} (h : KW s) : KW (stepQuit s).1 := by
  refine ⟨KP_mono h.k (.refl _) (fun _ hm => nomatch hm) (fun _ _ => rfl) (fun _ x => x) fun b hv => ?_,
    h.wn, h.sb⟩
  refine (List.mem_append.mp hv).resolve_right fun x => ?_
  obtain ⟨_, _, he⟩ := List.mem_map.mp x
  cases he

theorem KW_stepLate {s : State} (h : KW s) (a : InvA (abs s)) (hq : s.quit = true) (n : Nat) :
    KW (stepLate s n).1 := by
  have k := h.k
  have hbs : s.batches = [] := List.map_eq_nil_iff.mp (a.quitEmpty hq)
  refine ⟨⟨k.nodup, fun j hj => ⟨(k.bound j hj).1, Nat.lt_succ_of_lt (k.bound j hj).2⟩, k.qmap, k.rem, ?_, ?_⟩,
    h.wn, fun sub hs => ?_⟩
  · intro sub _ (hin : _ ∈ s.batches.map _); rw [hbs] at hin; exact absurd hin List.not_mem_nil
  · intro sub hs hv i h1 h2
    have hv' : (sub.id, Verdict.res Err.ok) ∈ s.verdicts := ok_of_append_nonok (by decide) hv
    cases List.mem_append.mp hs with
    | inl x => exact k.done sub x hv' i h1 h2
    | inr x =>
      cases List.mem_singleton.mp x
      exact absurd ((a.lt_iff _).mpr (.inr (List.mem_map.mpr ⟨_, hv', rfl⟩))) (Nat.lt_irrefl _)
  · exact sb_snoc h.sb _ _ sub hs

theorem KW_step {s : State} (h : KW s) (a : InvA (abs s)) (e : Ev) : KW (step s e).1 :=
  step_cases (P := fun _ r => KW r.1) s e h (fun hq n _ _ _ _ => KW_stepLate h a hq n) (fun _ => KW_stepQuit h)
    (fun _ => KW_stepExit h) (fun _ _ => KW_batches h (twin_setHard _ _)) (fun _ => KW_stepAccept h)
    (fun _ _ => KW_stepNewBatch h a) (fun _ _ => KW_stepPeer h) (fun _ _ => KW_stepResult h) (fun _ _ => KW_stepWake h)

theorem KW_init : KW init := by
  refine ⟨⟨List.nodup_nil, ?_, ?_, ?_, ?_, ?_⟩, List.nodup_nil, ?_⟩ <;> intro x hx <;> exact absurd hx List.not_mem_nil

end Neutrino.Disp
