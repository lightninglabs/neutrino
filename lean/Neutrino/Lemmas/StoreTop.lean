import Neutrino.Lemmas.StoreRollTo
namespace Neutrino.Store

/-- What the caller, or the restarted process, sees of a call from a state
representing some log: after a crash the restart succeeds on a state that
represents one of the logs in `S`; a completed call returned `e` and left a
state representing `l'`. -/
theorem Outcome.fin {S : Log → Prop} {l' : Log} {e : Out} {inj : Inj} {r : R Out}
    (ho : Outcome inj (AheadIn S) (fun o c' => o = e ∧ Rep c'.d l') r) (he : e ≠ .crashed) :
    (r.fin.2 = .crashed → (∃ k t, inj = .crash k t) ∧ ∃ d' lx, reopen r.fin.1 = some d' ∧ Rep d' lx ∧ S lx) ∧
    (r.fin.2 ≠ .crashed → r.fin.2 = e ∧ Rep r.fin.1 l') := by
  cases r with
  | ok o c => exact ⟨fun h => absurd (ho.2.1 ▸ h) he, fun _ => ho.2⟩
  | crashed d0 =>
    obtain ⟨hk, lx, xb, xf, hA, hS⟩ := ho
    obtain ⟨d', h1, h2⟩ := reopen_ahead hA
    exact ⟨fun _ => ⟨hk, d', lx, h1, h2, hS⟩, fun h => absurd rfl h⟩

/-- the expected output of an operation the spec accepts -/
def expectOut (l : Log) : Op → Out
  | .wb _ => .ok
  | .wf _ => .ok
  | .rb n => if n = 0 then .okNone else .okTip (l.blocks.length - 1 - n) (l.blocks.getD (l.blocks.length - n - 1) 0)
  | .rf => .okTip (l.filters.length - 2) (l.filters.getD (l.filters.length - 2) 0)
  | .rollto _ => .ok
  | .reopen => .ok

theorem apply_rollto (l : Log) (h : Nat) : l.apply (.rollto h) = postOf l h := by
  simp only [Log.apply, postOf, Nat.max_eq_left (Nat.succ_pos h), Nat.min_comm _ (h + 1), ← List.take_eq_take_min]

theorem exec_wb {d : Durable} {l : Log} (hrep : Rep d l) (ids : List Nat) (inj : Inj) :
    exec d (.wb ids) inj = (writeBlocks ids l.blocks.length { d := d, inj := inj }).fin := by
  obtain ⟨tip, _, hbt⟩ := rep_btipHeight hrep
  simp only [exec, hbt, len_pred_succ hrep.neB]

theorem exec_wf {d : Durable} {l : Log} (hrep : Rep d l) (fids : List Nat) (inj : Inj)
    (hroom : l.filters.length + fids.length ≤ l.blocks.length) :
    ∃ last, (fids ≠ [] → l.blocks[l.filters.length - 1 + fids.length]? = some last) ∧
      exec d (.wf fids) inj = (writeFilters fids last { d := d, inj := inj }).fin := by
  obtain ⟨b, hft⟩ := rep_ftipHeight hrep
  by_cases he : fids = []
  · subst he
    exact ⟨0, fun h => absurd rfl h, by simp only [exec, hft, List.isEmpty_nil, if_true]⟩
  · have hF : 0 < l.filters.length := List.length_pos_iff.mpr hrep.neF
    have hlt : l.filters.length - 1 + fids.length < l.blocks.length := by
      rw [← Nat.sub_add_comm hF]; exact Nat.lt_of_lt_of_le (Nat.sub_lt (Nat.add_pos_left hF _) Nat.one_pos) hroom
    refine ⟨l.blocks[l.filters.length - 1 + fids.length], fun _ => List.getElem?_eq_getElem hlt, ?_⟩
    have hg : d.bf.get? (l.filters.length - 1 + fids.length) = some l.blocks[l.filters.length - 1 + fids.length] := by
      rw [hrep.bents]; exact List.getElem?_eq_getElem hlt
    simp only [exec, hft, List.isEmpty_iff, he, if_false, hg]

theorem exec_rf {d : Durable} {l : Log} (hrep : Rep d l) (inj : Inj) (hlen : 1 < l.filters.length) :
    ∃ nt, l.blocks[l.filters.length - 2]? = some nt ∧
      exec d .rf inj = (rollbackFilter nt { d := d, inj := inj }).fin := by
  obtain ⟨b, hft⟩ := rep_ftipHeight hrep
  have hlt : l.filters.length - 2 < l.blocks.length :=
    Nat.lt_of_lt_of_le (Nat.sub_lt (Nat.zero_lt_of_lt hlen) Nat.two_pos) hrep.fle
  refine ⟨l.blocks[l.filters.length - 2], List.getElem?_eq_getElem hlt, ?_⟩
  have hg : d.bf.get? (l.filters.length - 1 - 1) = some l.blocks[l.filters.length - 2] := by
    rw [hrep.bents]; exact List.getElem?_eq_getElem hlt
  simp only [exec, hft, Nat.sub_ne_zero_of_lt hlen, if_false, hg]

theorem exec_rollto {d : Durable} {l : Log} (hrep : Rep d l) (h : Nat) (inj : Inj) :
    exec d (.rollto h) inj =
      (rollTo h l.blocks.length { d := d, inj := inj } (l.blocks.length - 1) (l.filters.length - 1)).fin := by
  obtain ⟨tip, _, hbt⟩ := rep_btipHeight hrep
  obtain ⟨b, hft⟩ := rep_ftipHeight hrep
  simp only [exec, hbt, hft, len_pred_succ hrep.neB]

/-- **The one statement everything else is read off from**: for every operation
under its contract, with no I/O fault armed (a crash may be), `exec` either
crashed — and then the restart succeeds on a state that represents the log
before or after the operation (for the multi-step rollback: a log it passes
through) — or completed with the spec's output on a state representing the
spec's result. -/
theorem exec_outcome (d : Durable) (l : Log) (op : Op) (inj : Inj) (hrep : Rep d l) (hc : Contract l op)
    (hnf : NoFault inj) (hro : op ≠ .reopen) :
    ((exec d op inj).2 = .crashed → (∃ k t, inj = .crash k t) ∧
        ∃ d' lx, reopen (exec d op inj).1 = some d' ∧ Rep d' lx ∧
          (match op with
           | .rollto _ => Between l (l.apply op) lx
           | _ => lx = l ∨ lx = l.apply op)) ∧
    ((exec d op inj).2 ≠ .crashed → (exec d op inj).2 = expectOut l op ∧ Rep (exec d op inj).1 (l.apply op)) := by
  cases op with
  | reopen => exact absurd rfl hro
  | wb ids =>
    rw [exec_wb hrep]
    exact (writeBlocks_outcome { d := d, inj := inj } l ids hrep hnf hc.1 hc.2).fin nofun
  | wf fids =>
    obtain ⟨last, hlast, he⟩ := exec_wf hrep fids inj hc
    rw [he]
    exact (writeFilters_outcome { d := d, inj := inj } l fids last hrep hnf hlast).fin nofun
  | rb n =>
    by_cases hn0 : n = 0
    · subst hn0
      have : Outcome inj (AheadIn fun lx => lx = l ∨ lx = l.apply (.rb 0))
          (fun o c' => o = .okNone ∧ Rep c'.d (l.apply (.rb 0))) (rollbackBlocks 0 { d := d, inj := inj }) :=
        ⟨rfl, rfl, by simpa [Log.apply] using hrep⟩
      exact this.fin nofun
    · obtain ⟨prev, hprev⟩ : ∃ x, l.blocks[l.blocks.length - n - 1]? = some x :=
        ⟨_, List.getElem?_eq_getElem (Nat.lt_of_le_of_lt (Nat.sub_le _ _) (Nat.sub_lt (Nat.zero_lt_of_lt hc.1) (Nat.pos_of_ne_zero hn0)))⟩
      have he : expectOut l (.rb n) = .okTip (l.blocks.length - 1 - n) prev := by
        simp only [expectOut, hn0, if_false, List.getD_eq_getElem?_getD, hprev, Option.getD_some]
      rw [he]
      exact (rollbackBlocks_outcome { d := d, inj := inj } l n prev hrep hnf hn0 hc.1 hc.2 hprev).fin nofun
  | rf =>
    obtain ⟨nt, hnt, he⟩ := exec_rf hrep inj hc
    obtain ⟨fh, hfh⟩ : ∃ x, l.filters[l.filters.length - 2]? = some x :=
      ⟨_, List.getElem?_eq_getElem (Nat.sub_lt (Nat.zero_lt_of_lt hc) Nat.two_pos)⟩
    have heo : expectOut l .rf = .okTip (l.filters.length - 2) fh := by
      simp only [expectOut, List.getD_eq_getElem?_getD, hfh, Option.getD_some]
    rw [he, heo]
    exact (rollbackFilter_outcome { d := d, inj := inj } l nt fh hrep hnf hc hnt hfh).fin nofun
  | rollto h =>
    rw [exec_rollto hrep, apply_rollto]
    exact (rollOutcome_iff.mp (rollTo_outcome h l.blocks.length { d := d, inj := inj } l hrep hnf
      (Nat.le_add_right_of_le (Nat.le_add_right _ _)))).fin nofun

theorem exec_none (d : Durable) (l : Log) (op : Op) (hrep : Rep d l) (hc : Contract l op) (hro : op ≠ .reopen) :
    (exec d op .none).2 = expectOut l op ∧ Rep (exec d op .none).1 (l.apply op) := by
  have h := exec_outcome d l op .none hrep hc trivial hro
  exact h.2 fun hcr => nomatch (h.1 hcr).1

/-- what every killed start preserves still holds after any number of them -/
theorem killedStarts_induction {P : Durable → Prop} (step : ∀ d k t, P d → P (exec d .reopen (.crash k t)).1) :
    ∀ (ks : List (Nat × Nat)) (d : Durable), P d →
      P (ks.foldl (fun d kt => (exec d .reopen (.crash kt.1 kt.2)).1) d)
  | [], _, h => h
  | kt :: ks, d, h => killedStarts_induction step ks _ (step d kt.1 kt.2 h)

end Neutrino.Store
