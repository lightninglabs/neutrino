import Neutrino.Model.IndexBuckets
import Neutrino.Lemmas.Store
namespace Neutrino.Store

variable (pre : Nat → Nat)

theorem Buckets.get_put (b : Buckets) (id h j : Nat) :
    (b.put pre id h).get pre j = if j = id then some h else b.get pre j := by
  unfold Buckets.put Buckets.get
  dsimp only
  by_cases hp : pre j = pre id
  · rw [if_pos hp, hp]
    dsimp only
    by_cases hj : j = id
    · rw [if_pos hj, if_pos hj]
    · rw [if_neg hj, if_neg hj]
      cases b.sub (pre id) <;> rfl
  · rw [if_neg hp, if_neg (fun e => hp (congrArg pre e))]

theorem Buckets.disjoint_put (b : Buckets) (id h : Nat) (hd : b.Disjoint pre) (hr : b.root id = none) :
    (b.put pre id h).Disjoint pre := by
  intro j es' h' hs he
  unfold Buckets.put at hs ⊢
  simp only at hs ⊢
  by_cases hp : pre j = pre id
  · simp only [hp, ↓reduceIte, Option.some.injEq] at hs
    subst hs
    by_cases hj : j = id
    · subst hj; exact hr
    · simp only [hj, ↓reduceIte] at he
      cases hsub : b.sub (pre id) with
      | none => simp [hsub] at he
      | some es =>
        simp only [hsub] at he
        exact hd j es h' (by rw [hp]; exact hsub) he
  · simp only [hp, ↓reduceIte] at hs
    exact hd j es' h' hs he

theorem Buckets.root_put (b : Buckets) (id h : Nat) : (b.put pre id h).root = b.root := rfl

/-- the sub-bucket phase: succeeds when every bucket exists, leaves the root bucket alone and removes exactly the
listed keys, each from the bucket of its prefix -/
theorem Buckets.delSub_spec (ids : List Nat) :
    ∀ (b : Buckets), (∀ id ∈ ids, b.sub (pre id) ≠ none) →
      ∃ b', b.delSub pre ids = some b' ∧ b'.root = b.root ∧
        ∀ p, b'.sub p = (b.sub p).map fun es j => if j ∈ ids ∧ pre j = p then none else es j := by
  induction ids with
  | nil =>
    intro b _
    refine ⟨b, rfl, rfl, fun p => ?_⟩
    cases b.sub p with
    | none => rfl
    | some es => exact congrArg some (funext fun j => by simp)
  | cons id rest ih =>
    intro b hex
    cases hs : b.sub (pre id) with
    | none => exact absurd hs (hex id (List.mem_cons_self ..))
    | some es =>
      obtain ⟨b', hb', hroot, hsub⟩ := ih
        { b with sub := fun p => if p = pre id then some (fun j => if j = id then none else es j) else b.sub p }
        (fun i hi => by
          dsimp only
          split
          · exact Option.some_ne_none _
          · exact hex i (List.mem_cons_of_mem _ hi))
      refine ⟨b', by rw [Buckets.delSub, hs]; exact hb', hroot, fun p => ?_⟩
      rw [hsub p]
      dsimp only
      by_cases hp : p = pre id
      · subst hp
        rw [if_pos rfl, hs]
        refine congrArg some (funext fun j => ?_)
        by_cases hj : j = id
        · subst hj; simp
        · simp [hj]
      · rw [if_neg hp]
        cases b.sub p with
        | none => rfl
        | some es0 =>
          refine congrArg some (funext fun j => ?_)
          have : ¬ (j = id ∧ pre j = p) := fun ⟨e, e'⟩ => hp (e ▸ e'.symm)
          simp only [List.mem_cons, or_and_right, this, false_or]

theorem Buckets.root_eq_none_of_not_inRoot {b : Buckets} {id : Nat} (h : b.inRoot id = false) : b.root id = none := by
  unfold Buckets.inRoot at h
  cases hr : b.root id with
  | none => rfl
  | some _ => rw [hr] at h; cases h

/-- **`deleteHeaderEntries` refines deletion from a plain map** when no hash is
stored twice and every listed hash is indexed: it succeeds, the listed hashes
are gone, every other lookup is unchanged, and still no hash is stored twice. -/
theorem Buckets.delEntries_spec (b : Buckets) (ids : List Nat) (hd : b.Disjoint pre)
    (hall : ∀ id ∈ ids, b.get pre id ≠ none) :
    ∃ b', b.delEntries pre ids = some b' ∧ b'.Disjoint pre ∧
      ∀ j, b'.get pre j = if j ∈ ids then none else b.get pre j := by
  -- a listed hash that is not in the root bucket is in its sub-bucket, which therefore exists
  obtain ⟨b', hb', hroot, hsub⟩ := Buckets.delSub_spec pre (ids.filter fun id => !b.inRoot id)
    (b.delRoot (ids.filter b.inRoot)) (by
      intro id hid hn
      obtain ⟨hid, hr⟩ := List.mem_filter.mp hid
      apply hall id hid
      unfold Buckets.get
      rw [show b.sub (pre id) = none from hn]
      exact Buckets.root_eq_none_of_not_inRoot (by simpa using hr))
  have hsub' : ∀ p, b'.sub p = (b.sub p).map fun es j =>
      if (j ∈ ids ∧ b.inRoot j = false) ∧ pre j = p then none else es j := by
    intro p; rw [hsub p]; simp [Buckets.delRoot]
  have hroot' : ∀ j, b'.root j = if j ∈ ids ∧ b.inRoot j = true then none else b.root j := by
    intro j; rw [hroot]; simp [Buckets.delRoot]
  refine ⟨b', hb', ?_, ?_⟩
  · intro j es' h' hs he
    rw [hsub'] at hs
    cases hb : b.sub (pre j) with
    | none => rw [hb] at hs; cases hs
    | some es =>
      rw [hb] at hs
      cases hs
      dsimp only at he
      split at he
      · cases he
      · rw [hroot', hd j es h' hb he, ite_self]
  · intro j
    unfold Buckets.get
    rw [hsub', hroot']
    cases hb : b.sub (pre j) with
    | none =>
      dsimp only [Option.map]
      by_cases hj : j ∈ ids
      · rw [if_pos hj]
        cases hr : b.inRoot j
        · simp [Buckets.root_eq_none_of_not_inRoot hr]
        · simp [hj]
      · simp [hj]
    | some es =>
      dsimp only [Option.map]
      by_cases hj : j ∈ ids
      · rw [if_pos hj]
        cases hr : b.inRoot j
        · simp [hj, Buckets.root_eq_none_of_not_inRoot hr]
        · -- kept in the root bucket, so not in the sub-bucket
          have : es j = none := by
            cases he : es j with
            | none => rfl
            | some v =>
              have := hd j es v hb he
              rw [Buckets.inRoot, this] at hr; cases hr
          simp [hj, this]
      · simp [hj]

theorem Buckets.refines_put (b : Buckets) (db : Db) (id h : Nat) (hr : b.Refines pre db) :
    (b.put pre id h).Refines pre (db.put id h) := by
  intro j
  rw [Buckets.get_put, height?_put, hr j]

theorem Buckets.refines_delAll (b : Buckets) (db : Db) (ids : List Nat) (hd : b.Disjoint pre)
    (hr : b.Refines pre db) (hall : ∀ id ∈ ids, db.height? id ≠ none) :
    ∃ b', b.delEntries pre ids = some b' ∧ b'.Disjoint pre ∧ b'.Refines pre (db.delAll ids) := by
  obtain ⟨b', hb', hd', hg⟩ := Buckets.delEntries_spec pre b ids hd (fun id hid => by rw [hr id]; exact hall id hid)
  refine ⟨b', hb', hd', ?_⟩
  intro j
  rw [hg j, height?_delAll, hr j]

theorem Buckets.refines_putAll (ids : List Nat) :
    ∀ (b : Buckets) (db : Db) (s : Nat), b.Disjoint pre → b.Refines pre db → (∀ id ∈ ids, b.root id = none) →
      (Buckets.putAll pre b ids s).Disjoint pre ∧ (Buckets.putAll pre b ids s).Refines pre (Db.addHeaders.go db ids s) := by
  induction ids with
  | nil => intro b db s hd hr _; exact ⟨hd, hr⟩
  | cons id rest ih =>
    intro b db s hd hr hroot
    simp only [Buckets.putAll, Db.addHeaders.go]
    exact ih _ _ _ (Buckets.disjoint_put pre b id s hd (hroot id (by simp)))
      (Buckets.refines_put pre b db id s hr)
      (fun i hi => by rw [Buckets.root_put]; exact hroot i (by simp [hi]))

theorem Buckets.ready_ensure (b : Buckets) : b.ensure.Ready := by
  intro p
  simp only [Buckets.ensure]
  cases b.sub p <;> simp

theorem Buckets.get_ensure (b : Buckets) (id : Nat) : b.ensure.get pre id = b.get pre id := by
  simp only [Buckets.get, Buckets.ensure]
  cases b.sub (pre id) <;> rfl

theorem Buckets.disjoint_ensure (b : Buckets) (hd : b.Disjoint pre) : b.ensure.Disjoint pre := by
  intro id es h hs he
  simp only [Buckets.ensure] at hs ⊢
  cases hb : b.sub (pre id) with
  | none => rw [hb] at hs; simp only [Option.some.injEq] at hs; subst hs; cases he
  | some es0 => rw [hb] at hs; simp only [Option.some.injEq] at hs; subst hs; exact hd id es0 h hb he

theorem Buckets.ready_put (b : Buckets) (id h : Nat) (hr : b.Ready) : (b.put pre id h).Ready := by
  intro p
  simp only [Buckets.put]
  by_cases hp : p = pre id
  · simp [hp]
  · simp only [hp, ↓reduceIte]; exact hr p

/-- with every sub-bucket in place `addHeaders`' loop never fails and is the plain sequence of puts -/
theorem Buckets.addAll_ready (ids : List Nat) :
    ∀ (b : Buckets) (s : Nat), b.Ready →
      Buckets.addAll pre b ids s = some (Buckets.putAll pre b ids s) ∧ (Buckets.putAll pre b ids s).Ready := by
  induction ids with
  | nil => intro b s hr; exact ⟨rfl, hr⟩
  | cons id rest ih =>
    intro b s hr
    simp only [Buckets.addAll, Buckets.putAll]
    cases hs : b.sub (pre id) with
    | none => exact absurd hs (hr _)
    | some _ => exact ih _ _ (Buckets.ready_put pre b id s hr)

theorem Buckets.ready_delEntries (b b' : Buckets) (ids : List Nat) (hr : b.Ready)
    (h : b.delEntries pre ids = some b') : b'.Ready := by
  obtain ⟨b'', hb'', _, hsub⟩ := Buckets.delSub_spec pre (ids.filter fun id => !b.inRoot id)
    (b.delRoot (ids.filter b.inRoot)) (fun id _ => hr _)
  cases hb''.symm.trans h
  intro p hp
  rw [hsub p] at hp
  cases hb : b.sub p with
  | none => exact hr p hb
  | some es => rw [show (b.delRoot _).sub p = some es from hb] at hp; cases hp

end Neutrino.Store
