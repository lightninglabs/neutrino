/-
Lemmas for C14: `Import` into healthy stores — what `importRun` does when a check
refuses the file, when the file has nothing new, and, for stores of equal height
and a file that starts at height 0 (height = source index), batch by batch.
-/
import Neutrino.Spec.Import
namespace Neutrino.Import

/-- a healthy pair of stores holding exactly these entries -/
def mk (bl : List BHdr) (fl : List Nat) : Stores :=
  { blocks := bl, btip := bl.length - 1, filters := fl, ftip := some (fl.length - 1) }

theorem bChainTip_mk (B : List BHdr) (Fl : List Nat) (h : B.length ≥ 1) : bChainTip (mk B Fl) = some (B.length - 1) :=
  if_pos (Nat.sub_lt h Nat.one_pos)

theorem fChainTip_mk (B : List BHdr) (Fl : List Nat) (h : Fl.length ≥ 1) : fChainTip (mk B Fl) = some (Fl.length - 1) :=
  if_pos (Nat.sub_lt h Nat.one_pos)

theorem one_le_length_append {α : Type} {l : List α} (l' : List α) (h : l.length ≥ 1) : (l ++ l').length ≥ 1 := by
  rw [List.length_append]
  exact Nat.le_trans h (Nat.le_add_right _ _)

theorem mk_take_zero (B l : List BHdr) (Fl l' : List Nat) : mk (B ++ l.take 0) (Fl ++ l'.take 0) = mk B Fl := by
  rw [List.take_zero, List.take_zero, List.append_nil, List.append_nil]

theorem obsOf_mk_blocks (B : List BHdr) (Fl : List Nat) : (obsOf (mk B Fl)).blocks = B := rfl
theorem obsOf_mk_filters (B : List BHdr) (Fl : List Nat) : (obsOf (mk B Fl)).filters = Fl := rfl

theorem usable_mk (B : List BHdr) (Fl : List Nat) (hB : B.length ≥ 1) (hF : Fl.length ≥ 1) :
    usable (obsOf (mk B Fl)) = true := by
  have e1 : (obsOf (mk B Fl)).btip = some (B.length - 1) := bChainTip_mk B Fl hB
  have e2 : (obsOf (mk B Fl)).ftip = some (Fl.length - 1) := fChainTip_mk B Fl hF
  simp only [usable, e1, e2, obsOf_mk_blocks, obsOf_mk_filters, beq_self_eq_true, Bool.true_and, Bool.and_eq_true,
    Bool.not_eq_true', List.isEmpty_eq_false_iff, and_true]
  exact ⟨List.ne_nil_of_length_pos hB, List.ne_nil_of_length_pos hF⟩

/-- outside the recorded shape F7: the file starts at height 0, or it ends at or below the lower tip -/
theorem f7Shape_false (pre : Obs) (F : File) :
    f7Shape pre F = false ↔ F.bstart = 0 ∨ endHeight F ≤ min (pre.blocks.length - 1) (pre.filters.length - 1) := by
  simp only [f7Shape, Bool.and_eq_false_iff, decide_eq_false_iff_not, gt_iff_lt, Nat.not_lt, Nat.le_zero_eq]

theorem ite_some_eq_none {α : Type} {c : Prop} [Decidable c] {e : α} {x : Option α} :
    (if c then some e else x) = none ↔ ¬ c ∧ x = none := by
  by_cases h : c <;> simp [h]

/-- a file that passes the metadata checks is what the oracle calls well-formed -/
theorem preChecks_none (F : File) (h : preChecks F = none) : metaOk F = true := by
  simp only [preChecks, ite_some_eq_none, Bool.or_eq_true, Bool.not_eq_true', List.isEmpty_iff, not_or,
    Bool.not_eq_false, ne_eq, decide_eq_true_eq, Decidable.not_not, and_true] at h
  obtain ⟨⟨⟨h1, h2⟩, _⟩, ⟨h3, h4⟩, ⟨h5, h6⟩, h7, h8⟩ := h
  simp only [metaOk, h1, ← h5, h6, h3, h4, h7, h8, beq_self_eq_true, Bool.true_and, Bool.not_eq_true',
    List.isEmpty_eq_false_iff]
  exact h2

theorem metaOk_lengths (F : File) (h : metaOk F = true) : F.filters.length = F.blocks.length ∧ 1 ≤ F.blocks.length := by
  simp only [metaOk, Bool.and_eq_true, beq_iff_eq, Bool.not_eq_true', List.isEmpty_eq_false_iff] at h
  exact ⟨h.1.2.symm, List.length_pos_iff.mpr h.2⟩

/-- every check `Import` makes before it writes anything passes -/
abbrev Accepted (F : File) (cfg : Cfg) (st : Stores) : Prop :=
  preChecks F = none ∧ continuity F st = none ∧ validateBlocks (validatedBody F cfg) cfg.bs = true

theorem importRun_refused (F : File) (cfg : Cfg) (st : Stores)
    (h : ¬ Accepted F cfg st) :
    ∃ e, importRun F cfg st = (some e, { st := st }) := by
  unfold importRun
  cases hp : preChecks F with
  | some e => exact ⟨e, rfl⟩
  | none =>
    cases hc : continuity F st with
    | some e => exact ⟨e, rfl⟩
    | none =>
      cases hv : validateBlocks (validatedBody F cfg) cfg.bs with
      | false => exact ⟨.invalid, rfl⟩
      | true => exact absurd ⟨hp, hc, hv⟩ h

theorem importRun_ok_facts (F : File) (cfg : Cfg) (st : Stores) (h : (importRun F cfg st).1 = none) :
    Accepted F cfg st :=
  Decidable.by_contra fun hn => by
    obtain ⟨e, he⟩ := importRun_refused F cfg st hn
    rw [he] at h
    cases h

theorem importRun_eq_regions (F : File) (cfg : Cfg) (st : Stores) (b f : Nat) (h : Accepted F cfg st)
    (hb : bChainTip st = some b) (hf : fChainTip st = some f) :
    importRun F cfg st = processRegions F cfg b f { st := st, np := 2 * valBatches F cfg } := by
  unfold importRun
  simp only [h.1, h.2.1, h.2.2, hb, hf, Bool.not_true, Bool.false_eq_true, ↓reduceIte]

/-- `validateChainContinuity` needs both chain tips -/
theorem continuity_none_tips (F : File) (st : Stores) (h : continuity F st = none) :
    ∃ b f, bChainTip st = some b ∧ fChainTip st = some f := by
  unfold continuity at h
  cases hb : bChainTip st with
  | none => rw [hb] at h; cases h
  | some b =>
    cases hf : fChainTip st with
    | none => rw [hb, hf] at h; cases h
    | some f => exact ⟨b, f, rfl, rfl⟩

theorem validatedBody_full (F : File) (cfg : Cfg) (h : cancelled cfg (2 * valBatches F cfg) = false) :
    validatedBody F cfg = F.blocks := by
  unfold validatedBody
  unfold cancelled at h
  cases hc : cfg.cancelAt with
  | none => rfl
  | some c =>
    rw [hc] at h
    have : ¬ c < valBatches F cfg := fun hlt => of_decide_eq_false h (by omega)
    simp only [this, ↓reduceIte]

theorem validatedBody_none (F : File) (cfg : Cfg) (h : cfg.cancelAt = none) : validatedBody F cfg = F.blocks := by
  unfold validatedBody; rw [h]

theorem appendLoop_succ (F : File) (cfg : Cfg) (srcEnd : Nat) (mode : Mode) (fuel batchStart : Nat) (r : Run) :
    appendLoop F cfg srcEnd mode (fuel + 1) batchStart r =
      if cancelled cfg r.np then (some .cancel, r)
      else
        match processBatch F cfg srcEnd mode batchStart { r with np := r.np + 1 } with
        | .eof => (none, { r with np := r.np + 1 })
        | .err e r' => (some e, r')
        | .next batchEnd r' => appendLoop F cfg srcEnd mode fuel (batchEnd + 1) r' := rfl

theorem appendNew_cancelled (F : File) (cfg : Cfg) (a e : Nat) (m : Mode) (r : Run) (h : cancelled cfg r.np = true) :
    appendNew F cfg a e m r = (some .cancel, r) := by
  unfold appendNew
  rw [appendLoop_succ, if_pos h]

/-- a cancellation noticed before the first write batch: nothing is written, and the import reports
the failure unless there was nothing to write -/
theorem processRegions_cancelled (F : File) (cfg : Cfg) (b f : Nat) (r : Run) (h : cancelled cfg r.np = true) :
    (processRegions F cfg b f r).2.st = r.st ∧
    ((regions F b f).1.exists = true ∨ (regions F b f).2.exists = true → (processRegions F cfg b f r).1 ≠ none) := by
  unfold processRegions
  simp only [appendNew_cancelled F cfg _ _ _ r h]
  cases (regions F b f).1.exists
  · cases (regions F b f).2.exists <;> simp [appendNew_cancelled F cfg _ _ _ r h]
  · cases verifyAt F r.st (regions F b f).1.verify (regions F b f).1.stop <;> simp

/-- **anything written ⇒ everything validated**: if `Import` changed the stores at
all, every check had passed on the WHOLE file and the context had not been
cancelled when the write loop began (a validator that sees a cancelled context
returns early, but then the write loop's first look at the context stops it) -/
theorem importRun_written_validated (F : File) (cfg : Cfg) (st : Stores) (h : (importRun F cfg st).2.st ≠ st) :
    preChecks F = none ∧ continuity F st = none ∧ validateBlocks F.blocks cfg.bs = true ∧
    cancelled cfg (2 * valBatches F cfg) = false := by
  by_cases hck : Accepted F cfg st
  · obtain ⟨b, f, hb, hf⟩ := continuity_none_tips F st hck.2.1
    rw [importRun_eq_regions F cfg st b f hck hb hf] at h
    obtain ⟨hp, hc, hv⟩ := hck
    cases hcan : cancelled cfg (2 * valBatches F cfg) with
    | true => exact absurd (processRegions_cancelled F cfg b f { st := st, np := 2 * valBatches F cfg } hcan).1 h
    | false => exact ⟨hp, hc, validatedBody_full F cfg hcan ▸ hv, rfl⟩
  · obtain ⟨e, he⟩ := importRun_refused F cfg st hck
    rw [he] at h
    exact absurd rfl h

theorem processRegions_none (F : File) (cfg : Cfg) (b f : Nat) (r : Run) (he : endHeight F ≤ min b f) :
    processRegions F cfg b f r = (none, r) := by
  unfold processRegions regions
  have h1 : ¬ (min b f + 1 ≤ min (max b f) (endHeight F)) :=
    Nat.not_le_of_gt (Nat.lt_succ_of_le (Nat.le_trans (Nat.min_le_right _ _) he))
  have h2 : ¬ (max b f + 1 ≤ endHeight F) :=
    Nat.not_le_of_gt (Nat.lt_succ_of_le (Nat.le_trans he (Nat.le_trans (Nat.min_le_left _ _) (Nat.le_max_left _ _))))
  simp only [h1, h2, decide_false, Bool.and_false, Bool.false_eq_true, ↓reduceIte]

theorem importRun_covered_gen (F : File) (cfg : Cfg) (B : List BHdr) (Fl : List Nat)
    (hB : B.length ≥ 1) (hF : Fl.length ≥ 1) (he : endHeight F ≤ min (B.length - 1) (Fl.length - 1)) :
    (importRun F cfg (mk B Fl)).2.st = mk B Fl ∧
    ((importRun F cfg (mk B Fl)).1 = none ↔ Accepted F cfg (mk B Fl)) := by
  by_cases h : Accepted F cfg (mk B Fl)
  · rw [importRun_eq_regions F cfg (mk B Fl) _ _ h (bChainTip_mk B Fl hB) (fChainTip_mk B Fl hF),
      processRegions_none F cfg _ _ _ he]
    exact ⟨rfl, fun _ => h, fun _ => rfl⟩
  · obtain ⟨e, he⟩ := importRun_refused F cfg (mk B Fl) h
    rw [he]
    exact ⟨rfl, fun hn => (nomatch hn), fun hh => absurd hh h⟩

/-- length of the batch read at index `a` -/
def batchLen (E bs a : Nat) : Nat := min E (a + bs - 1) + 1 - a

theorem le_batchEnd {E bs a : Nat} (hbs : bs ≥ 1) (h : a ≤ E) : a ≤ min E (a + bs - 1) :=
  Nat.le_min.mpr ⟨h, Nat.le_sub_one_of_lt (Nat.lt_add_of_pos_right hbs)⟩

theorem batchLen_pos {E bs a : Nat} (hbs : bs ≥ 1) (h : a ≤ E) : 1 ≤ batchLen E bs a ∧ a + batchLen E bs a ≤ E + 1 := by
  have hM := le_batchEnd hbs h
  refine ⟨Nat.le_sub_of_add_le (Nat.add_comm 1 a ▸ Nat.succ_le_succ hM), ?_⟩
  rw [batchLen, Nat.add_sub_of_le (Nat.le_succ_of_le hM)]
  exact Nat.succ_le_succ (Nat.min_le_left _ _)

theorem readBatch_eof {α : Type} (body : List α) {a E : Nat} (bs : Nat) (h : a > E) :
    readBatch body a E bs = .eof :=
  if_pos (Nat.lt_of_le_of_lt (Nat.min_le_left _ _) h)

theorem readBatch_ok {α : Type} (body : List α) {a E bs : Nat} (hbs : bs ≥ 1) (h : a ≤ E) (hE : E < body.length) :
    readBatch body a E bs = .ok ((body.drop a).take (batchLen E bs a)) := by
  unfold readBatch batchLen
  have h1 : ¬ a > min E (a + bs - 1) := Nat.not_lt.mpr (le_batchEnd hbs h)
  have h2 : min E (a + bs - 1) < body.length := Nat.lt_of_le_of_lt (Nat.min_le_left _ _) hE
  simp only [h1, h2, ↓reduceIte]

theorem slice_length {α : Type} (body : List α) {a k : Nat} (h : a + k ≤ body.length) :
    ((body.drop a).take k).length = k := by
  rw [List.length_take, List.length_drop]
  exact Nat.min_eq_left (Nat.le_sub_of_add_le' h)

theorem rollbackBlocks_appended (B bl : List BHdr) (Fl : List Nat) (ft : Option Nat) (hB : B.length ≥ 1) :
    rollbackBlocks { blocks := B ++ bl, btip := (B ++ bl).length - 1, filters := Fl, ftip := ft } bl.length
      = some { blocks := B, btip := B.length - 1, filters := Fl, ftip := ft } := by
  unfold rollbackBlocks
  by_cases h0 : bl.length = 0
  · rw [if_pos h0, List.eq_nil_of_length_eq_zero h0, List.append_nil]
  · have h1 : ¬ bl.length > (B ++ bl).length - 1 := by
      rw [List.length_append]
      exact Nat.not_lt.mpr (Nat.le_sub_one_of_lt (Nat.lt_add_of_pos_left hB))
    have h2 : ¬ (B ++ bl).length - 1 ≥ (B ++ bl).length := Nat.not_le.mpr (Nat.sub_lt (one_le_length_append bl hB) Nat.one_pos)
    simp only [h0, h1, h2, decide_false, Bool.or_false, Bool.false_eq_true, ↓reduceIte]
    rw [List.length_append, Nat.add_sub_cancel, List.take_left' rfl, Nat.add_comm, Nat.add_sub_assoc hB,
      Nat.add_sub_cancel_left]

/-- `writeHeadersToTargetStores` on healthy stores with two non-empty batches whose
last height is stamped on both tips: either both are appended or an error is returned
and the stores are exactly as before — the block store is rolled back when the filter
write fails. -/
theorem writeBoth_both (cfg : Cfg) (r : Run) (B : List BHdr) (Fl : List Nat) (bl : List BHdr) (fl : List Nat)
    (stamp : Nat) (ft : Option Nat) (hst : r.st = mk B Fl) (hB : B.length ≥ 1) (hbl : bl ≠ []) (hfl : fl ≠ [])
    (hstamp : stamp = (B ++ bl).length - 1) (hft : ft = some ((Fl ++ fl).length - 1)) :
    (∃ r', writeBoth cfg r bl stamp fl ft = (none, r') ∧ r'.st = mk (B ++ bl) (Fl ++ fl)) ∨
    (∃ e r', writeBoth cfg r bl stamp fl ft = (some e, r') ∧ r'.st = r.st) := by
  subst hstamp hft
  unfold writeBoth writeBlocks writeFilters
  simp only [hbl, hfl, ↓reduceIte]
  by_cases h1 : cfg.failB = some r.nb
  · simp only [h1, ↓reduceIte]
    exact Or.inr ⟨_, _, rfl, rfl⟩
  by_cases h2 : cfg.failF = some r.nf
  · simp only [h1, h2, ↓reduceIte, hst]
    right
    rw [show (mk B Fl).blocks = B from rfl, rollbackBlocks_appended B bl _ _ hB]
    exact ⟨_, _, rfl, rfl⟩
  · simp only [h1, h2, ↓reduceIte, hst]
    exact Or.inl ⟨_, rfl, rfl⟩

theorem processBatch_both_eof (F : File) (cfg : Cfg) (E a : Nat) (r : Run) (h : a > E) :
    processBatch F cfg E .both a r = .eof := by
  unfold processBatch
  simp only [reduceCtorEq, ↓reduceIte, readBatch_eof F.blocks cfg.bs h]

theorem processBatch_both (F : File) (cfg : Cfg) (E a : Nat) (r : Run) (B : List BHdr) (Fl : List Nat)
    (hs : F.bstart = 0) (hbs : cfg.bs ≥ 1) (hEb : E < F.blocks.length) (hEf : E < F.filters.length)
    (hst : r.st = mk B Fl) (hB : B.length = a) (hF : Fl.length = a) (ha : a ≥ 1) (h : a ≤ E) :
    (∃ r', processBatch F cfg E .both a r = .next (a + batchLen E cfg.bs a - 1) r' ∧
        r'.st = mk (B ++ (F.blocks.drop a).take (batchLen E cfg.bs a)) (Fl ++ (F.filters.drop a).take (batchLen E cfg.bs a))) ∨
    (∃ e r', processBatch F cfg E .both a r = .err e r' ∧ r'.st = r.st) := by
  obtain ⟨hk1, hk2⟩ := batchLen_pos hbs h
  have hlb := slice_length F.blocks (Nat.le_trans hk2 hEb)
  have hlf := slice_length F.filters (Nat.le_trans hk2 hEf)
  unfold processBatch
  simp only [reduceCtorEq, ↓reduceIte, readBatch_ok F.blocks hbs h hEb, readBatch_ok F.filters hbs h hEf,
    hlb, hlf, hs, Nat.add_zero, ne_eq, not_true_eq_false]
  rcases writeBoth_both cfg r B Fl _ _ (a + batchLen E cfg.bs a - 1) (some (a + batchLen E cfg.bs a - 1)) hst (hB ▸ ha)
      (List.ne_nil_of_length_pos (hlb ▸ hk1)) (List.ne_nil_of_length_pos (hlf ▸ hk1))
      (by rw [List.length_append, hB, hlb]) (by rw [List.length_append, hF, hlf]) with
    ⟨r', hw, hr'⟩ | ⟨e, r', hw, hr'⟩
  · left; refine ⟨r', ?_, hr'⟩; rw [hw]
  · right; refine ⟨e, r', ?_, hr'⟩; rw [hw]

theorem take_drop_of_le {α : Type} (l : List α) {a j : Nat} (h : l.length ≤ a + j) : (l.drop a).take j = l.drop a :=
  List.take_of_length_le (by rw [List.length_drop]; exact Nat.sub_le_of_le_add (Nat.add_comm a j ▸ h))

theorem append_take_take {α : Type} (B l : List α) (a k j : Nat) :
    (B ++ (l.drop a).take k) ++ (l.drop (a + k)).take j = B ++ (l.drop a).take (k + j) := by
  rw [List.append_assoc, List.take_add, List.drop_drop]

/-- the whole batch loop: whatever it returns, a common prefix of the file from index `a`
on has been appended to both stores, which are healthy; on success that prefix reaches
the last index `E`. -/
theorem appendLoop_both (F : File) (cfg : Cfg) (E : Nat)
    (hs : F.bstart = 0) (hbs : cfg.bs ≥ 1) (hEb : E < F.blocks.length) (hEf : E < F.filters.length) :
    ∀ (fuel a : Nat) (r : Run) (B : List BHdr) (Fl : List Nat), r.st = mk B Fl → B.length = a → Fl.length = a → a ≥ 1 →
      ∃ j, (appendLoop F cfg E .both fuel a r).2.st = mk (B ++ (F.blocks.drop a).take j) (Fl ++ (F.filters.drop a).take j) ∧
        ((appendLoop F cfg E .both fuel a r).1 = none → E < a + j) := by
  intro fuel
  induction fuel with
  | zero => exact fun a r B Fl hst _ _ _ => ⟨0, hst.trans (mk_take_zero ..).symm, fun h => nomatch h⟩
  | succ fuel ih =>
    intro a r B Fl hst hB hF ha
    rw [appendLoop_succ]
    by_cases hcan : cancelled cfg r.np = true
    · rw [if_pos hcan]
      exact ⟨0, hst.trans (mk_take_zero ..).symm, fun h => nomatch h⟩
    rw [if_neg hcan]
    by_cases h : a ≤ E
    · obtain ⟨hk1, hk2⟩ := batchLen_pos hbs h
      rcases processBatch_both F cfg E a { r with np := r.np + 1 } B Fl hs hbs hEb hEf hst hB hF ha h with
        ⟨r', hp, hr'⟩ | ⟨e, r', hp, hr'⟩
      · rw [hp]
        dsimp only
        obtain ⟨j, hj, hok⟩ := ih (a + batchLen E cfg.bs a) r' _ _ hr'
          (by rw [List.length_append, hB, slice_length F.blocks (Nat.le_trans hk2 hEb)])
          (by rw [List.length_append, hF, slice_length F.filters (Nat.le_trans hk2 hEf)])
          (Nat.le_trans ha (Nat.le_add_right _ _))
        rw [Nat.sub_add_cancel (Nat.le_trans ha (Nat.le_add_right _ _))]
        refine ⟨batchLen E cfg.bs a + j, ?_, fun hn => Nat.add_assoc _ _ _ ▸ hok hn⟩
        rw [hj, append_take_take, append_take_take]
      · rw [hp]
        exact ⟨0, (hr'.trans hst).trans (mk_take_zero ..).symm, fun h => nomatch h⟩
    · rw [processBatch_both_eof F cfg E a _ (Nat.lt_of_not_le h)]
      exact ⟨0, hst.trans (mk_take_zero ..).symm, fun _ => Nat.lt_of_not_le h⟩

/-- what `Import` guarantees for stores `mk B Fl` of equal height `a` -/
def Post (F : File) (B : List BHdr) (Fl : List Nat) (a : Nat) (res : Option Err × Run) : Prop :=
  (res.1 = none → metaOk F = true ∧ res.2.st = mk (B ++ F.blocks.drop a) (Fl ++ F.filters.drop a)) ∧
  (∀ e, res.1 = some e → ∃ j, (j = 0 ∨ metaOk F = true) ∧
      res.2.st = mk (B ++ (F.blocks.drop a).take j) (Fl ++ (F.filters.drop a).take j))

/-- a run that ends with an error before anything was written changes nothing -/
theorem post_early (F : File) (B : List BHdr) (Fl : List Nat) (a : Nat) (e : Err) (nb nf : Nat) :
    Post F B Fl a (some e, { st := mk B Fl, nb := nb, nf := nf }) :=
  ⟨fun h => (nomatch h), fun _ _ => ⟨0, Or.inl rfl, (mk_take_zero ..).symm⟩⟩

theorem Post.prefix {F : File} {B : List BHdr} {Fl : List Nat} {a : Nat} {res : Option Err × Run} (h : Post F B Fl a res) :
    ∃ j, res.2.st = mk (B ++ (F.blocks.drop a).take j) (Fl ++ (F.filters.drop a).take j) := by
  cases hr : res.1 with
  | none =>
    refine ⟨max (F.blocks.drop a).length (F.filters.drop a).length, ?_⟩
    rw [List.take_of_length_le (Nat.le_max_left _ _), List.take_of_length_le (Nat.le_max_right _ _)]
    exact (h.1 hr).2
  | some e =>
    obtain ⟨j, _, hj⟩ := h.2 e hr
    exact ⟨j, hj⟩

/-- two stores at the same tip: one new-headers region, in `appendBlockAndFilter` mode -/
theorem processRegions_level (F : File) (cfg : Cfg) (t : Nat) (r : Run) :
    processRegions F cfg t t r =
      if t + 1 ≤ endHeight F then appendNew F cfg (t + 1) (endHeight F) .both r else (none, r) := by
  unfold processRegions regions
  simp only [↓reduceIte, ne_eq, not_true_eq_false, decide_false, Bool.false_and, Bool.false_eq_true,
    Nat.max_self, decide_eq_true_eq]

theorem importRun_zero (F : File) (cfg : Cfg) (B : List BHdr) (Fl : List Nat) (a : Nat)
    (hs : F.bstart = 0) (hbs : cfg.bs ≥ 1) (hB : B.length = a) (hF : Fl.length = a) (ha : a ≥ 1) :
    Post F B Fl a (importRun F cfg (mk B Fl)) := by
  by_cases h : Accepted F cfg (mk B Fl)
  · have hmeta := preChecks_none F h.1
    obtain ⟨hN, hlen⟩ := metaOk_lengths F hmeta
    have hE : F.blocks.length = endHeight F + 1 := by
      rw [endHeight, hs, Nat.zero_add, Nat.sub_add_cancel hlen]
    rw [importRun_eq_regions F cfg (mk B Fl) (a - 1) (a - 1) h
      (hB ▸ bChainTip_mk B Fl (hB ▸ ha)) (hF ▸ fChainTip_mk B Fl (hF ▸ ha)), processRegions_level,
      Nat.sub_add_cancel ha]
    split
    · unfold appendNew
      rw [hs, Nat.sub_zero]
      obtain ⟨j, hj, hok⟩ := appendLoop_both F cfg (endHeight F) hs hbs (Nat.lt_of_succ_le (Nat.le_of_eq hE.symm))
        (Nat.lt_of_succ_le (Nat.le_of_eq (hN.trans hE).symm)) (endHeight F + 2) a
        { st := mk B Fl, np := 2 * valBatches F cfg } B Fl rfl hB hF ha
      refine ⟨fun hn => ⟨hmeta, ?_⟩, fun e _ => ⟨j, Or.inr hmeta, hj⟩⟩
      have hle : F.blocks.length ≤ a + j := Nat.le_trans (Nat.le_of_eq hE) (hok hn)
      rw [hj, take_drop_of_le _ hle, take_drop_of_le _ (hN ▸ hle)]
    · rename_i hfull
      have hle : F.blocks.length ≤ a := Nat.le_trans (Nat.le_of_eq hE) (Nat.lt_of_not_le hfull)
      refine ⟨fun _ => ⟨hmeta, ?_⟩, fun e he => nomatch he⟩
      rw [List.drop_eq_nil_of_le hle, List.drop_eq_nil_of_le (hN ▸ hle), List.append_nil, List.append_nil]
  · obtain ⟨e, he⟩ := importRun_refused F cfg (mk B Fl) h
    rw [he]
    exact post_early F B Fl a e 0 0

theorem bstart_le_endHeight (F : File) (hne : F.blocks.length ≥ 1) : F.bstart ≤ endHeight F :=
  Nat.le_sub_one_of_lt (Nat.lt_add_of_pos_right hne)

theorem covered_length (F : File) {a : Nat} (ha : a ≥ 1) (he : endHeight F ≤ a - 1) : F.blocks.length ≤ a - F.bstart :=
  Nat.le_sub_of_add_le' ((Nat.sub_le_sub_iff_right ha).mp he)

theorem shape_gap (F : File) {a : Nat} (hs : F.bstart = 0 ∨ endHeight F ≤ a - 1) (hne : F.blocks.length ≥ 1) :
    F.bstart ≤ a := by
  rcases hs with h | h
  · exact h ▸ Nat.zero_le _
  · exact Nat.le_trans (Nat.le_trans (bstart_le_endHeight F hne) h) (Nat.sub_le _ _)

/-- `Import` into healthy stores of equal height outside the recorded shape F7: the file starts at
height 0, or it ends at or below the tips (and then nothing is appended). -/
theorem importRun_level (F : File) (cfg : Cfg) (B : List BHdr) (Fl : List Nat) (hbs : cfg.bs ≥ 1)
    (hB : B.length ≥ 1) (hF : Fl.length = B.length) (hshape : F.bstart = 0 ∨ endHeight F ≤ B.length - 1) :
    Post F B Fl (B.length - F.bstart) (importRun F cfg (mk B Fl)) := by
  rcases hshape with hs | he
  · rw [hs]
    exact importRun_zero F cfg B Fl B.length hs hbs rfl hF hB
  · have hcov := importRun_covered_gen F cfg B Fl hB (hF ▸ hB) (by rw [hF, Nat.min_self]; exact he)
    have hle := covered_length F hB he
    refine ⟨fun hn => ?_, fun e _ => ⟨0, Or.inl rfl, hcov.1.trans (mk_take_zero ..).symm⟩⟩
    have hmeta := preChecks_none F (hcov.2.mp hn).1
    refine ⟨hmeta, ?_⟩
    rw [hcov.1, List.drop_eq_nil_of_le hle, List.drop_eq_nil_of_le ((metaOk_lengths F hmeta).1 ▸ hle), List.append_nil,
      List.append_nil]

theorem extended_covers (F : File) (B : List BHdr) (Fl : List Nat) (hF : Fl.length = B.length)
    (hmeta : metaOk F = true) (hgap : F.bstart ≤ B.length) :
    endHeight F ≤ min ((B ++ F.blocks.drop (B.length - F.bstart)).length - 1)
      ((Fl ++ F.filters.drop (B.length - F.bstart)).length - 1) := by
  simp only [List.length_append, List.length_drop, hF, (metaOk_lengths F hmeta).1, Nat.min_self, endHeight]
  refine Nat.sub_le_sub_right ?_ 1
  calc F.bstart + F.blocks.length
      ≤ F.bstart + (F.blocks.length - (B.length - F.bstart) + (B.length - F.bstart)) :=
        Nat.add_le_add_left (Nat.le_add_of_sub_le (Nat.le_refl _)) _
    _ = B.length + (F.blocks.length - (B.length - F.bstart)) := by
        rw [Nat.add_comm (F.blocks.length - _), ← Nat.add_assoc, Nat.add_sub_of_le hgap]

/-- once the stores hold the file up to its last height, a further import finds nothing to append -/
theorem importRun_again (F : File) (cfg : Cfg) (B : List BHdr) (Fl : List Nat) (st : Stores) (hB : B.length ≥ 1)
    (hF : Fl.length = B.length) (hmeta : metaOk F = true) (hgap : F.bstart ≤ B.length)
    (hst : st = mk (B ++ F.blocks.drop (B.length - F.bstart)) (Fl ++ F.filters.drop (B.length - F.bstart))) :
    (importRun F cfg st).2.st = st ∧
    ((importRun F cfg st).1 = none ↔ Accepted F cfg st) :=
  hst ▸ importRun_covered_gen F cfg _ _ (one_le_length_append _ hB) (one_le_length_append _ (hF ▸ hB))
    (extended_covers F B Fl hF hmeta hgap)

end Neutrino.Import
