/-
Invariant of the SubscriptionManager model (Model/Subs.lean), preserved by every
event, and the one-step facts behind the C11 theorems.
-/
import Neutrino.Model.Subs
namespace Neutrino.Subs

/-- What holds of every registered subscriber in every reachable state. -/
structure SubInv (fanned : List Ntfn) (stopped : Bool) (x : Sub) : Prop where
  conserve      : x.delivered ++ x.chan ++ x.queue = x.backlog ++ x.since
  capOk         : x.chan.length ≤ chanCap
  liveClosed    : x.live = !x.closed
  regLe         : x.regAt ≤ fanned.length
  sincePre      : x.since <+: fanned.drop x.regAt
  sinceLive     : x.live = true → x.since = fanned.drop x.regAt
  stoppedClosed : stopped = true → x.closed = true
  sawClosedOk   : x.sawClosed = true → x.closed = true ∧ x.chan = []

theorem SubInv.fresh (fanned : List Ntfn) (h : Nat) (bl : List Ntfn) :
    SubInv fanned false { height := h, regAt := fanned.length, backlog := bl, queue := bl } where
  conserve := by simp
  capOk := by simp
  liveClosed := rfl
  regLe := Nat.le_refl _
  sincePre := by simp
  sinceLive := by simp
  stoppedClosed := by simp
  sawClosedOk := by simp

theorem SubInv.forward {f : List Ntfn} {st : Bool} {x : Sub} (h : SubInv f st x) :
    SubInv f st x.forward := by
  unfold Sub.forward
  split
  · exact h
  next hc =>
    split
    · exact h
    next n q hq =>
      split
      next hl =>
        exact { h with
          conserve := by rw [← h.conserve, hq]; simp
          capOk := by simp only [List.length_append, List.length_cons, List.length_nil]; omega
          sawClosedOk := fun hs => absurd (h.sawClosedOk hs).1 hc }
      · exact h

theorem SubInv.consume {f : List Ntfn} {st : Bool} {x : Sub} (h : SubInv f st x) :
    SubInv f st x.consume.1 := by
  unfold Sub.consume
  split
  next n c hq =>
    exact { h with
      conserve := by rw [← h.conserve, hq]; simp
      capOk := by have := h.capOk; rw [hq] at this; exact Nat.le_of_succ_le this
      sawClosedOk := fun hs => by have := (h.sawClosedOk hs).2; rw [hq] at this; cases this }
  next hq =>
    split
    next hc => exact { h with sawClosedOk := fun _ => ⟨hc, hq⟩ }
    · exact h

theorem SubInv.cancel {f : List Ntfn} {st : Bool} (b : Bool) {x : Sub} (h : SubInv f st x) :
    SubInv f b x.cancel := by
  unfold Sub.cancel
  split
  · exact { h with liveClosed := rfl, sinceLive := nofun, stoppedClosed := fun _ => rfl,
                   sawClosedOk := fun hs => ⟨rfl, (h.sawClosedOk hs).2⟩ }
  next hl =>
    have hcl : x.closed = true := by
      have := h.liveClosed
      cases hx : x.closed <;> simp_all
    exact { h with stoppedClosed := fun _ => hcl }

theorem SubInv.push {f : List Ntfn} {x : Sub} (n : Ntfn) (h : SubInv f false x) :
    SubInv (f ++ [n]) false (x.push n) := by
  unfold Sub.push
  have hdrop : (f ++ [n]).drop x.regAt = f.drop x.regAt ++ [n] :=
    List.drop_append_of_le_length h.regLe
  have hle : x.regAt ≤ (f ++ [n]).length := by
    rw [List.length_append]; exact Nat.le_add_right_of_le h.regLe
  split
  next hl =>
    have hs := h.sinceLive hl
    exact { h with
      conserve := by
        show x.delivered ++ x.chan ++ (x.queue ++ [n]) = x.backlog ++ (x.since ++ [n])
        rw [← List.append_assoc, h.conserve, List.append_assoc]
      regLe := hle
      sincePre := by show x.since ++ [n] <+: _; rw [hdrop, hs]; exact List.prefix_refl _
      sinceLive := fun _ => by show x.since ++ [n] = _; rw [hdrop, hs] }
  next hl =>
    exact { h with
      regLe := hle
      sincePre := by rw [hdrop]; exact List.IsPrefix.trans h.sincePre (List.prefix_append _ _)
      sinceLive := fun hh => absurd hh hl }

/-- The effect of one event on the state: nothing, or one of the seven transitions. -/
theorem step_cases {motive : State → Prop} (s : State) (e : Ev) (same : motive s)
    (subscribe : ∀ id h bl, s.stopped = false → s.subs id = none →
      motive { s with subs := setSub s.subs id { height := h, regAt := s.fanned.length, backlog := bl, queue := bl } })
    (emit : ∀ n, motive { s with src := s.src ++ [n] })
    (fanout : ∀ n rest, s.stopped = false → s.src = n :: rest →
      motive { s with subs := mapAll s.subs (Sub.push n), src := rest, fanned := s.fanned ++ [n] })
    (forward : ∀ id, motive { s with subs := upd s.subs id Sub.forward })
    (consume : ∀ id x, s.subs id = some x → motive { s with subs := setSub s.subs id x.consume.1 })
    (cancel : ∀ id, s.stopped = false → motive { s with subs := upd s.subs id Sub.cancel })
    (stop : s.stopped = false → motive { s with subs := mapAll s.subs Sub.cancel, stopped := true }) :
    motive (step s e).1 := by
  fun_cases step s e
  -- subscribe
  · exact same
  · exact same
  · exact subscribe _ _ _ (Bool.not_eq_true _ ▸ ‹_›) ‹_›
  -- subscribeFail
  · exact same
  · exact same
  · exact same
  · exact emit _
  -- handlerFanout
  · exact same
  · exact same
  · exact fanout _ _ (Bool.not_eq_true _ ▸ ‹_›) ‹_›
  · exact forward _
  -- consume
  · exact same
  · exact consume _ _ ‹_›
  -- cancel, stop
  · exact same
  · exact cancel _ (Bool.not_eq_true _ ▸ ‹_›)
  · exact same
  · exact stop (Bool.not_eq_true _ ▸ ‹_›)

def All (P : Sub → Prop) (f : Nat → Option Sub) : Prop := ∀ id x, f id = some x → P x

section
variable {P : Sub → Prop} {f : Nat → Option Sub}

theorem All.setSub (h : All P f) (id : Nat) {x : Sub} (hx : P x) :
    All P (setSub f id x) := by
  intro i y hy
  unfold Subs.setSub at hy
  split at hy
  · cases hy; exact hx
  · exact h i y hy

theorem All.mapAll {Q : Sub → Prop} {g : Sub → Sub} (h : All P f)
    (hg : ∀ x, P x → Q (g x)) : All Q (mapAll f g) := by
  intro i y hy
  obtain ⟨x, hx, rfl⟩ := Option.map_eq_some_iff.1 hy
  exact hg x (h i x hx)

theorem All.upd {g : Sub → Sub} (h : All P f) (id : Nat)
    (hg : ∀ x, P x → P (g x)) : All P (upd f id g) := by
  intro i y hy
  unfold Subs.upd at hy
  split at hy
  · exact h.mapAll hg i y hy
  · exact h i y hy

end

def Inv (s : State) : Prop := All (SubInv s.fanned s.stopped) s.subs

theorem inv_init : Inv init := fun _ _ h => nomatch h

theorem inv_step (s : State) (e : Ev) (h : Inv s) : Inv (step s e).1 := by
  refine step_cases s e h ?_ ?_ ?_ ?_ ?_ ?_ ?_
  · intro id ht bl hs _
    exact h.setSub id (by rw [hs]; exact SubInv.fresh ..)
  · exact fun _ => h
  · intro n rest hs _
    exact All.mapAll h fun x hx => by rw [hs] at hx ⊢; exact hx.push n
  · exact fun id => h.upd id fun _ => SubInv.forward
  · exact fun id x hx => h.setSub id (h id x hx).consume
  · exact fun id _ => h.upd id fun _ hx => hx.cancel _
  · exact fun _ => All.mapAll h fun _ hx => hx.cancel _

theorem inv_run (s : State) (evs : List Ev) (h : Inv s) : Inv (run s evs) := by
  induction evs generalizing s with
  | nil => exact h
  | cons e es ih => exact ih _ (inv_step s e h)

theorem run_append (s : State) (a b : List Ev) : run s (a ++ b) = run (run s a) b := by
  induction a generalizing s with
  | nil => rfl
  | cons e es ih => exact ih _

end Neutrino.Subs
