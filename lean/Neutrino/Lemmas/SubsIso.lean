/-
Isolation and frozen-after-close lemmas for the SubscriptionManager model.
-/
import Neutrino.Lemmas.Subs
namespace Neutrino.Subs

theorem State.ext' {s t : State} (h1 : s.subs = t.subs) (h2 : s.src = t.src)
    (h3 : s.fanned = t.fanned) (h4 : s.stopped = t.stopped) : s = t := by
  cases s; cases t; simp_all

def hide (B : Nat) (f : Nat → Option Sub) : Nat → Option Sub := fun i => if i = B then none else f i

/-- the state as seen by everybody except subscriber `B` -/
def hideState (B : Nat) (s : State) : State := { s with subs := hide B s.subs }

theorem hide_congr {B : Nat} {f g : Nat → Option Sub} (h : ∀ i, i ≠ B → f i = g i) : hide B f = hide B g := by
  funext i
  unfold hide
  split
  · rfl
  next hi => exact h i hi

theorem hide_setSub_other (B id : Nat) (hne : id ≠ B) (f : Nat → Option Sub) (x : Sub) :
    hide B (setSub f id x) = setSub (hide B f) id x := by
  funext i; simp only [hide, setSub]
  by_cases h : i = B
  · simp [h, hne.symm]
  · simp [h]

theorem hide_upd_other (B id : Nat) (hne : id ≠ B) (f : Nat → Option Sub) (g : Sub → Sub) :
    hide B (upd f id g) = upd (hide B f) id g := by
  funext i; simp only [hide, upd]
  by_cases h : i = B
  · simp [h, hne.symm]
  · simp [h]

theorem hide_mapAll (B : Nat) (f : Nat → Option Sub) (g : Sub → Sub) :
    hide B (mapAll f g) = mapAll (hide B f) g := by
  funext i; simp only [hide, mapAll]
  by_cases h : i = B <;> simp [h]

theorem hide_other (B id : Nat) (hne : id ≠ B) (f : Nat → Option Sub) : hide B f id = f id := by
  simp [hide, hne]

/-- An event of subscriber `B` is invisible to everybody else. -/
theorem step_hide_own (B : Nat) (s : State) (e : Ev) (he : e.about = some B) :
    hideState B (step s e).1 = hideState B s := by
  revert he
  fun_cases step s e <;> intro he
  -- the state is left alone, or the event is nobody's
  any_goals rfl
  any_goals cases he
  -- subscribe, forward, consume, cancel: the table changes at `B` only
  all_goals exact State.ext' (hide_congr fun i hi => if_neg hi) rfl rfl rfl

/-- Every other event has the same enabledness, effect and output whether or
not subscriber `B` exists, whatever `B`'s queue/channel/consumer state is. -/
theorem step_hide_other (B : Nat) (s : State) (e : Ev) (he : e.about ≠ some B) :
    hideState B (step s e).1 = (step (hideState B s) e).1 ∧ (step s e).2 = (step (hideState B s) e).2 := by
  obtain ⟨subs, src, fanned, stopped⟩ := s
  have hne : ∀ id, e.about = some id → id ≠ B := fun _ ha h => he (h ▸ ha)
  cases e with
  | subscribe id ht bl =>
    have hne := hne id rfl
    cases stopped
    · cases hx : subs id with
      | none =>
        simp only [step, hideState, hide_other B id hne, hx, Bool.false_eq_true, ↓reduceIte,
          hide_setSub_other B id hne, and_self]
      | some x =>
        simp only [step, hideState, hide_other B id hne, hx, Bool.false_eq_true, ↓reduceIte, and_self]
    · simp only [step, hideState, ↓reduceIte, and_self]
  | subscribeFail id ht =>
    have hne := hne id rfl
    cases stopped
    · cases hx : subs id <;>
        simp only [step, hideState, hide_other B id hne, hx, Bool.false_eq_true, ↓reduceIte, and_self]
    · simp only [step, hideState, ↓reduceIte, and_self]
  | emit n => exact ⟨rfl, rfl⟩
  | handlerFanout =>
    cases stopped
    · cases src with
      | nil => simp only [step, hideState, Bool.false_eq_true, ↓reduceIte, and_self]
      | cons n rest => simp only [step, hideState, Bool.false_eq_true, ↓reduceIte, hide_mapAll, and_self]
    · simp only [step, hideState, ↓reduceIte, and_self]
  | stop =>
    cases stopped
    · simp only [step, hideState, Bool.false_eq_true, ↓reduceIte, hide_mapAll, and_self]
    · simp only [step, hideState, ↓reduceIte, and_self]
  | forward id =>
    have hne := hne id rfl
    simp only [step, hideState, hide_upd_other B id hne, and_self]
  | consume id =>
    have hne := hne id rfl
    cases hx : subs id <;>
      simp only [step, hideState, hide_other B id hne, hx, hide_setSub_other B id hne, and_self]
  | cancel id =>
    have hne := hne id rfl
    cases stopped
    · simp only [step, hideState, Bool.false_eq_true, ↓reduceIte, hide_upd_other B id hne, and_self]
    · simp only [step, hideState, ↓reduceIte, and_self]

/-- the events that are not subscriber `B`'s -/
def notOf (B : Nat) (e : Ev) : Bool := e.about != some B

/-- outputs of the events selected by `p` -/
def outsWhere (p : Ev → Bool) (s : State) : List Ev → List Out
  | [] => []
  | e :: es => if p e then (step s e).2 :: outsWhere p (step s e).1 es else outsWhere p (step s e).1 es

theorem run_hide (B : Nat) (s : State) (evs : List Ev) :
    hideState B (run s evs) = run (hideState B s) (evs.filter (notOf B)) ∧
    outsWhere (notOf B) s evs = outs (hideState B s) (evs.filter (notOf B)) := by
  induction evs generalizing s with
  | nil => exact ⟨rfl, rfl⟩
  | cons e es ih =>
    by_cases hp : e.about = some B
    · have hf : notOf B e = false := by simp [notOf, hp]
      simp only [List.filter_cons, hf, run, outsWhere, Bool.false_eq_true, ↓reduceIte]
      rw [← step_hide_own B s e hp]
      exact ih _
    · have hf : notOf B e = true := by simp [notOf, hp]
      simp only [List.filter_cons, hf, run, outs, outsWhere, ↓reduceIte]
      obtain ⟨h1, h2⟩ := step_hide_other B s e hp
      rw [← h1, ← h2]
      exact ⟨(ih _).1, by rw [(ih _).2]⟩

/-- `y` is a later state of the closed subscriber `x` -/
structure Frozen (x y : Sub) : Prop where
  closed  : y.closed = true
  dead    : y.live = false
  chanOk  : y.delivered ++ y.chan = x.delivered ++ x.chan
  queueEq : y.queue = x.queue
  sinceEq : y.since = x.since
  backEq  : y.backlog = x.backlog

theorem Frozen.refl {x : Sub} (hc : x.closed = true) (hl : x.live = false) : Frozen x x :=
  ⟨hc, hl, rfl, rfl, rfl, rfl⟩

theorem Frozen.forward {x y : Sub} (h : Frozen x y) : y.forward = y := by
  simp [Sub.forward, h.closed]

theorem Frozen.cancel {x y : Sub} (h : Frozen x y) : y.cancel = y := by
  simp [Sub.cancel, h.dead]

theorem Frozen.push {x y : Sub} (n : Ntfn) (h : Frozen x y) : y.push n = y := by
  simp [Sub.push, h.dead]

theorem Frozen.consume {x y : Sub} (h : Frozen x y) : Frozen x y.consume.1 := by
  unfold Sub.consume
  split
  next n c hq => exact { h with chanOk := by rw [← h.chanOk, hq]; simp }
  · split
    · exact { h with }
    · exact h

section
variable {P : Sub → Prop}

/-- what is registered stays registered through a table update that keeps `P` -/
theorem some_setSub {f : Nat → Option Sub} {i : Nat} (h : ∃ y, f i = some y ∧ P y)
    (id : Nat) (x : Sub) (hx : i = id → P x) : ∃ y, setSub f id x i = some y ∧ P y := by
  unfold setSub
  split
  next hi => exact ⟨x, rfl, hx hi⟩
  · exact h

theorem some_mapAll {f : Nat → Option Sub} {i : Nat} (h : ∃ y, f i = some y ∧ P y)
    (g : Sub → Sub) (hg : ∀ y, P y → P (g y)) : ∃ y, mapAll f g i = some y ∧ P y :=
  let ⟨y, hy, hp⟩ := h
  ⟨g y, by rw [mapAll, hy]; rfl, hg y hp⟩

theorem some_upd {f : Nat → Option Sub} {i : Nat} (h : ∃ y, f i = some y ∧ P y)
    (id : Nat) (g : Sub → Sub) (hg : ∀ y, P y → P (g y)) : ∃ y, upd f id g i = some y ∧ P y := by
  unfold upd
  split
  · exact some_mapAll h g hg
  · exact h

variable (forward : ∀ y, P y → P y.forward) (consume : ∀ y, P y → P y.consume.1)
  (cancel : ∀ y, P y → P y.cancel) (push : ∀ n y, P y → P (y.push n))
include forward consume cancel push

/-- A registered subscriber stays registered, and all that ever happens to it is one of its four
transitions. -/
theorem step_sub (s : State) (e : Ev) (id : Nat) (h : ∃ y, s.subs id = some y ∧ P y) :
    ∃ y, (step s e).1.subs id = some y ∧ P y := by
  refine step_cases (motive := fun t => ∃ y, t.subs id = some y ∧ P y) s e h ?_ ?_ ?_ ?_ ?_ ?_ ?_
  · intro i _ _ _ hn
    exact some_setSub h i _ fun hi => by obtain ⟨y, hy, _⟩ := h; rw [hi, hn] at hy; cases hy
  · exact fun _ => h
  · exact fun n _ _ _ => some_mapAll h _ (push n)
  · exact fun i => some_upd h i _ forward
  · intro i x hx
    exact some_setSub h i _ fun hi => by
      obtain ⟨y, hy, hp⟩ := h; rw [hi, hx] at hy; cases hy; exact consume x hp
  · exact fun i _ => some_upd h i _ cancel
  · exact fun _ => some_mapAll h _ cancel

theorem run_sub (s : State) (evs : List Ev) (id : Nat) (h : ∃ y, s.subs id = some y ∧ P y) :
    ∃ y, (run s evs).subs id = some y ∧ P y := by
  induction evs generalizing s with
  | nil => exact h
  | cons e es ih => exact ih _ (step_sub forward consume cancel push s e id h)

end

theorem frozen_run (s : State) (evs : List Ev) (id : Nat) (x y : Sub)
    (hy : s.subs id = some y) (hf : Frozen x y) :
    ∃ y', (run s evs).subs id = some y' ∧ Frozen x y' :=
  run_sub (fun y h => by rw [h.forward]; exact h) (fun _ h => h.consume) (fun y h => by rw [h.cancel]; exact h)
    (fun n y h => by rw [h.push]; exact h) s evs id ⟨y, hy, hf⟩

end Neutrino.Subs
