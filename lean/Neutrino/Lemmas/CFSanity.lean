/-
`checkSanity` (the model of `checkCFCheckptSanity`, with its accumulator and its
zero-hash "unset" marker) computes `sanitySpec` — for every family of checkpoint
lists of any lengths and every store.
-/
import Neutrino.Spec.CFSanity
namespace Neutrino.CFHeaders

theorem mem_valsAt (i : Nat) (cp : List (Peer × List Hdr)) (x : Hdr) :
    x ∈ valsAt i cp ↔ ∃ pc ∈ cp, pc.2[i]? = some x := by
  unfold valsAt
  exact List.mem_filterMap

theorem allSame_iff (vs : List Hdr) : allSame vs = true ↔ ∀ x ∈ vs, ∀ y ∈ vs, x = y := by
  cases vs with
  | nil => exact ⟨fun _ _ h => (nomatch h), fun _ => rfl⟩
  | cons v vs =>
    unfold allSame
    rw [List.all_eq_true]
    constructor
    · intro h
      have hv : ∀ x ∈ v :: vs, x = v := fun x hx =>
        (List.mem_cons.mp hx).elim id fun hx => beq_iff_eq.mp (h x hx)
      exact fun x hx y hy => (hv x hx).trans (hv y hy).symm
    · exact fun h x hx => beq_iff_eq.mpr (h x (List.mem_cons_of_mem _ hx) v List.mem_cons_self)

theorem disagreeAt_eq_false_iff (interval : Nat) (fstore : List Hdr) (cp : List (Peer × List Hdr)) (i : Nat) :
    disagreeAt interval fstore cp i = false ↔
      (∀ pc ∈ cp, ∀ qc ∈ cp, ∀ x y, pc.2[i]? = some x → qc.2[i]? = some y → x = y) ∧
      ((i + 1) * interval ≤ fstore.length - 1 →
        ∀ pc ∈ cp, ∀ x, pc.2[i]? = some x → fstore[(i + 1) * interval]? = some x) := by
  unfold disagreeAt
  rw [Bool.or_eq_false_iff, Bool.not_eq_false', allSame_iff, Bool.and_eq_false_imp, decide_eq_true_eq,
    List.any_eq_false]
  simp only [mem_valsAt, bne_iff_ne, ne_eq, Decidable.not_not, forall_exists_index, and_imp]
  exact ⟨fun ⟨h1, h2⟩ => ⟨fun pc hp qc hq x y hx hy => h1 x pc hp hx y qc hq hy, fun h pc hp x hx => h2 h x pc hp hx⟩,
    fun ⟨h1, h2⟩ => ⟨fun x pc hp hx y qc hq hy => h1 pc hp qc hq x y hx hy, fun h x pc hp hx => h2 h pc hp x hx⟩⟩

theorem lt_foldl_max_iff (i : Nat) (cp : List (Peer × List Hdr)) (m0 : Nat) :
    i < cp.foldl (fun m pc => max m pc.2.length) m0 ↔ i < m0 ∨ ∃ pc ∈ cp, i < pc.2.length := by
  induction cp generalizing m0 with
  | nil => exact ⟨.inl, fun h => h.elim id nofun⟩
  | cons pc r ih =>
    rw [List.foldl_cons, ih, ← Nat.not_le, Nat.max_le, Decidable.not_and_iff_not_or_not, Nat.not_le, Nat.not_le,
      or_assoc]
    simp only [List.mem_cons, exists_eq_or_imp]

theorem lt_maxLen_iff (cp : List (Peer × List Hdr)) (i : Nat) :
    i < maxLen cp ↔ ∃ pc ∈ cp, ∃ x, pc.2[i]? = some x := by
  unfold maxLen
  rw [lt_foldl_max_iff]
  simp only [Nat.not_lt_zero, false_or, List.getElem?_eq_some_iff]
  exact ⟨fun ⟨pc, h, hl⟩ => ⟨pc, h, _, hl, rfl⟩, fun ⟨pc, h, _, hl, _⟩ => ⟨pc, h, hl⟩⟩

theorem sanityPeers_nz (i : Nat) (v : Hdr) (hv : v ≠ 0) (cp : List (Peer × List Hdr)) :
    sanityPeers i v cp = if (valsAt i cp).all (fun x => x == v) then some v else none := by
  induction cp with
  | nil => rfl
  | cons pc r ih =>
    unfold sanityPeers valsAt
    rw [List.filterMap_cons]
    cases pc.2[i]? with
    | none => exact ih
    | some c =>
      dsimp only
      rw [if_neg hv, List.all_cons]
      by_cases hc : v = c
      · rw [if_neg (not_not_intro hc), ← hc, beq_self_eq_true, Bool.true_and]; exact ih
      · rw [if_pos hc, beq_eq_false_iff_ne.mpr (Ne.symm hc), Bool.false_and]; rfl

/-- the comparison among the peers at index `i`, zero being nobody's value: the first
value seen, provided all values are the same -/
theorem sanityPeers_zero (i : Nat) (cp : List (Peer × List Hdr)) (hz : ∀ x ∈ valsAt i cp, x ≠ 0) :
    sanityPeers i 0 cp = if allSame (valsAt i cp) then some ((valsAt i cp).head?.getD 0) else none := by
  induction cp with
  | nil => rfl
  | cons pc r ih =>
    unfold valsAt at hz
    unfold sanityPeers valsAt
    rw [List.filterMap_cons] at hz ⊢
    cases h : pc.2[i]? with
    | none => rw [h] at hz; exact ih hz
    | some c =>
      rw [h] at hz
      dsimp only
      rw [if_pos rfl, if_neg (not_not_intro rfl)]
      exact sanityPeers_nz i c (hz c List.mem_cons_self) r

/-- one iteration of the loop of `checkCFCheckptSanity` decides `disagreeAt` -/
theorem sanityLoop_cons (interval : Nat) (fstore : List Hdr) (cp : List (Peer × List Hdr))
    (hz : noZeroCp cp = true) (i : Nat) (is : List Nat) (hne : valsAt i cp ≠ []) :
    sanityLoop interval fstore cp (i :: is) =
      if disagreeAt interval fstore cp i = true then some i else sanityLoop interval fstore cp is := by
  have hnz : ∀ x ∈ valsAt i cp, x ≠ 0 := by
    intro x hx
    obtain ⟨pc, hpc, hi⟩ := (mem_valsAt i cp x).mp hx
    exact bne_iff_ne.mp (List.all_eq_true.mp (List.all_eq_true.mp hz pc hpc) x (List.mem_of_getElem? hi))
  rw [sanityLoop, sanityPeers_zero i cp hnz]
  unfold disagreeAt
  cases hvs : valsAt i cp with
  | nil => exact absurd hvs hne
  | cons v vs =>
    cases hall : allSame (v :: vs) with
    | false => rfl
    | true =>
      rw [if_pos rfl]
      -- all values are `v`: the store is compared with `v` alone
      have hany : (v :: vs).any (fun x => fstore[(i + 1) * interval]? != some x) =
          (fstore[(i + 1) * interval]? != some v) := by
        have hv : ∀ x ∈ v :: vs, x = v := fun x hx => (allSame_iff _).mp hall x hx v List.mem_cons_self
        cases hb : fstore[(i + 1) * interval]? != some v with
        | true => exact List.any_eq_true.mpr ⟨v, List.mem_cons_self, hb⟩
        | false => exact List.any_eq_false.mpr fun x hx => by rw [hv x hx, hb]; exact Bool.false_ne_true
      rw [hany, Bool.not_true, Bool.false_or]
      dsimp only [List.head?_cons, Option.getD_some]
      by_cases hle : (i + 1) * interval ≤ fstore.length - 1
      · rw [if_pos hle, decide_eq_true hle, Bool.true_and]
        by_cases hs : fstore[(i + 1) * interval]? = some v
        · rw [if_neg (not_not_intro hs), if_neg (by rw [bne_iff_ne]; exact not_not_intro hs)]
        · rw [if_pos hs, if_pos (bne_iff_ne.mpr hs)]
      · rw [if_neg hle, decide_eq_false hle, Bool.false_and, if_neg Bool.false_ne_true]

theorem checkSanity_eq_spec (interval : Nat) (fstore : List Hdr) (cp : List (Peer × List Hdr))
    (hz : noZeroCp cp = true) : checkSanity interval fstore cp = sanitySpec interval fstore cp := by
  have : ∀ is : List Nat, (∀ i ∈ is, i < maxLen cp) →
      sanityLoop interval fstore cp is = is.find? (disagreeAt interval fstore cp) := by
    intro is
    induction is with
    | nil => exact fun _ => rfl
    | cons i r ih =>
      intro h
      obtain ⟨pc, hpc, x, hx⟩ := (lt_maxLen_iff cp i).mp (h i List.mem_cons_self)
      rw [sanityLoop_cons interval fstore cp hz i r (List.ne_nil_of_mem ((mem_valsAt i cp x).mpr ⟨pc, hpc, hx⟩)),
        List.find?_cons, ih fun j hj => h j (List.mem_cons_of_mem _ hj)]
      cases disagreeAt interval fstore cp i <;> rfl
  exact this _ fun i hi => List.mem_range.mp hi

end Neutrino.CFHeaders
