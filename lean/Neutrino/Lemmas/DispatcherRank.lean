/-
Lemmas for C12, "preferring peers with a better record":
  * a ranking call acts on the entry of the address it names as the oracle's `ownStep` says and on no other entry,
    so a peer's entry after any history is its own calls folded over its entry before;
  * in the dispatcher only a result reported by `p` moves `p`'s score;
  * the blocking offer loop picks a worker no non-exiting entry of the ranked list beats, and its outcome is an
    `accept` the dispatcher model enables once the exits it saw have happened.
-/
import Neutrino.Spec.Dispatcher
import Neutrino.Lemmas.Dispatcher
namespace Neutrino.Disp

theorem lookup_setScore (r : List (Nat × Nat)) (q v p : Nat) :
    (setScore r q v).lookup p = if q = p then some v else r.lookup p := by
  rw [setScore, List.lookup_cons]
  by_cases h : q = p
  · rw [h, beq_self_eq_true, if_pos rfl]
  · rw [beq_false_of_ne (Ne.symm h), if_neg h, lookup_filter_ne _ (Ne.symm h)]

theorem lookup_same {r : List (Nat × Nat)} {q : Nat} {v : Option Nat} (h : r.lookup q = v) (p : Nat) :
    r.lookup p = if q = p then v else r.lookup p := by
  split
  · subst_vars; rfl
  · rfl

/-- `Reward` and `Punish`: a known score moves one step towards the bound `c` and stays there -/
theorem lookup_bump (r : List (Nat × Nat)) (q c : Nat) (f : Nat → Nat) (p : Nat) :
    (match r.lookup q with
      | none => r
      | some s => if s = c then r else setScore r q (f s)).lookup p =
      if q = p then (r.lookup q).map (fun v => if v = c then v else f v) else r.lookup p := by
  cases hl : r.lookup q with
  | none => exact lookup_same hl p
  | some v =>
    by_cases hv : v = c
    · simp only [hv, ↓reduceIte, Option.map_some]; exact lookup_same (hv ▸ hl) p
    · simp only [hv, ↓reduceIte, Option.map_some]; exact lookup_setScore ..

theorem lookup_rankStep (r : List (Nat × Nat)) (o : RankOp) (p : Nat) :
    (rankStep r o).lookup p = if o.addr = p then ownStep (r.lookup o.addr) o else r.lookup p := by
  cases o with
  | add q =>
    show (addPeer r q).lookup p = if q = p then some ((r.lookup q).getD _) else _
    unfold addPeer
    cases hl : r.lookup q with
    | none => exact lookup_setScore ..
    | some v => exact lookup_same hl p
  | reward q => exact lookup_bump r q Gen.Dispatcher.bestScore (· - 1) p
  | punish q => exact lookup_bump r q Gen.Dispatcher.worstScore (· + 1) p
  | reset q =>
    show (resetRank r q).lookup p = if q = p then (r.lookup q).map _ else _
    unfold resetRank
    cases hl : r.lookup q with
    | none => exact lookup_same hl p
    | some v => exact lookup_setScore ..

theorem lookup_rankRun (r : List (Nat × Nat)) (ops : List RankOp) (p : Nat) :
    (rankRun r ops).lookup p = (ops.filter (fun o => o.addr == p)).foldl ownStep (r.lookup p) := by
  induction ops generalizing r with
  | nil => rfl
  | cons o os ih =>
    rw [rankRun, ih, lookup_rankStep, List.filter_cons]
    by_cases ho : o.addr = p
    · rw [if_pos ho, if_pos (beq_iff_eq.mpr ho), ho]; rfl
    · rw [if_neg ho, if_neg (mt beq_iff_eq.mp ho)]

theorem scoreOf_rankStep_other (r : List (Nat × Nat)) {o : RankOp} {p : Nat} (h : o.addr ≠ p) :
    scoreOf (rankStep r o) p = scoreOf r p := by
  rw [scoreOf, lookup_rankStep, if_neg h]; rfl

/-- an `AddPeer` never changes anybody's (effective) score: unknown counts as the default -/
theorem scoreOf_addPeer (r : List (Nat × Nat)) (q p : Nat) : scoreOf (addPeer r q) p = scoreOf r p := by
  by_cases hq : q = p
  · subst hq
    show ((rankStep r (.add q)).lookup q).getD _ = _
    rw [lookup_rankStep, if_pos (show (RankOp.add q).addr = q from rfl)]
    rfl
  · exact scoreOf_rankStep_other r (o := .add q) hq

theorem emit_rank (s : State) (b : Nat) (v : Verdict) : (emit s b v).rank = s.rank := rfl

theorem stepResult_rank (s : State) (q : Nat) (e : Err) :
    (stepResult s q e).1.rank = s.rank ∨
      ∃ o : RankOp, o.addr = q ∧ (stepResult s q e).1.rank = rankStep s.rank o := by
  cases hw : findW s.workers q with
  | none => rw [stepResult_unknown hw]; exact .inl rfl
  | some w =>
    cases ha : w.active with
    | none => rw [stepResult_idle hw ha]; exact .inl rfl
    | some job =>
      cases hf : findB s.batches ((s.queries.lookup job.idx).getD 0) with
      | none => rw [stepResult_ended hw ha rfl hf]; exact .inl rfl
      | some bp =>
        rw [rank_after_result hw ha hf]
        by_cases h1 : e = .ok
        · exact .inr ⟨.reward q, rfl, if_pos h1⟩
        by_cases h2 : e = .canceled
        · exact .inl ((if_neg h1).trans (if_pos h2))
        by_cases h3 : e = .disconnected
        · exact .inr ⟨.reset q, rfl, (if_neg h1).trans ((if_neg h2).trans (if_pos h3))⟩
        · exact .inr ⟨.punish q, rfl, (if_neg h1).trans ((if_neg h2).trans (if_neg h3))⟩

theorem step_scoreOf_other (s : State) (e : Ev) (p : Nat) (h : ∀ err, e ≠ .result p err) :
    scoreOf (step s e).1.rank p = scoreOf s.rank p := by
  revert h
  refine step_cases (P := fun e r => (∀ err, e ≠ .result p err) → scoreOf r.1.rank p = scoreOf s.rank p) s e
    (ignored := fun _ => rfl) (late := fun _ _ _ _ _ _ _ => rfl) (quit := fun _ _ => rfl)
    (exit := fun _ q _ => stepExit_cases (fun r => scoreOf r.1.rank p = _) (fun _ => rfl) fun _ _ => rfl)
    (elapse := fun _ _ _ => rfl)
    (accept := fun _ q _ => stepAccept_cases (fun r => scoreOf r.1.rank p = _) rfl fun _ _ _ _ => rfl)
    (newBatch := fun _ _ _ _ _ _ _ _ => rfl) (peer := fun _ _ q _ => scoreOf_addPeer s.rank q p)
    (result := fun _ _ q err h => ?_)
    (wake := fun _ _ b g _ => stepWake_cases (fun r => scoreOf r.1.rank p = _) rfl fun _ _ _ => rfl)
  cases stepResult_rank s q err with
    | inl hr => rw [hr]
    | inr hr =>
      obtain ⟨o, ho, hr⟩ := hr
      rw [hr]
      exact scoreOf_rankStep_other _ fun c => h err (ho.symm.trans c ▸ rfl)

theorem offerLoop_spec (fate : Nat → Fate) (l : List Nat) (p : Nat) (h : offerLoop fate l = some p) :
    fate p ≠ .exits ∧ ∃ pre post, l = pre ++ p :: post ∧ ∀ q ∈ pre, fate q = .exits := by
  induction l with
  | nil => cases h
  | cons x xs ih =>
    unfold offerLoop at h
    cases hf : fate x with
    | takes n =>
      rw [hf] at h
      cases h
      exact ⟨fun c => (nomatch hf.symm.trans c), [], xs, rfl, fun _ hq => (nomatch hq)⟩
    | exits =>
      rw [hf] at h
      obtain ⟨h1, pre, post, hl, hpre⟩ := ih h
      refine ⟨h1, x :: pre, post, by rw [hl]; rfl, fun q hq => ?_⟩
      cases List.mem_cons.mp hq with
      | inl e => rw [e]; exact hf
      | inr m => exact hpre q m

theorem offerLoop_minimal (rank : List (Nat × Nat)) (fate : Nat → Fate) (l : List Nat) (p : Nat)
    (hs : l.Pairwise (fun a b => scoreOf rank a ≤ scoreOf rank b)) (h : offerLoop fate l = some p) :
    ∀ q ∈ l, fate q ≠ .exits → scoreOf rank p ≤ scoreOf rank q := by
  obtain ⟨_, pre, post, hl, hpre⟩ := offerLoop_spec fate l p h
  subst hl
  intro q hq hne
  rcases List.mem_append.mp hq with hq | hq
  · exact absurd (hpre q hq) hne
  · rcases List.mem_cons.mp hq with hq | hq
    · rw [hq]; exact Nat.le_refl _
    · exact (List.pairwise_cons.mp (List.pairwise_append.mp hs).2.1).1 q hq

theorem freeLive_stepExit (s : State) (p : Nat) :
    freeLive (stepExit s p).1 = (freeLive s).filter (fun w => w.addr != p) := by
  have comm (ws : List Worker) : (ws.filter (fun w => w.addr != p)).filter (fun w => w.active.isNone && !w.exited) =
      (ws.filter (fun w => w.active.isNone && !w.exited)).filter (fun w => w.addr != p) := by
    rw [List.filter_filter, List.filter_filter]; congr 1; funext w; exact Bool.and_comm ..
  refine stepExit_cases (fun r => freeLive r.1 = _) (fun hw => ?_) fun w hw => ?_
  · have : s.workers.filter (fun w => w.addr != p) = s.workers :=
      List.filter_eq_self.mpr fun x hx => bne_iff_ne.mpr (findW_none hw x hx)
    exact (congrArg _ this.symm).trans (comm _)
  · cases findW_addr hw
    exact (List.filter_cons_of_neg (by simp)).trans (comm _)

theorem stepExit_keeps (s : State) (p : Nat) :
    (stepExit s p).1.quit = s.quit ∧ (stepExit s p).1.rank = s.rank ∧ (stepExit s p).1.work = s.work :=
  stepExit_cases (fun r => r.1.quit = s.quit ∧ r.1.rank = s.rank ∧ r.1.work = s.work) (fun _ => ⟨rfl, rfl, rfl⟩)
    fun _ _ => ⟨rfl, rfl, rfl⟩

/-- after the exits of `qs` the free running workers are the old ones minus `qs`; nothing else the hand-out looks at moves -/
theorem run_exits (s : State) (qs : List Nat) (hq : s.quit = false) :
    freeLive (run s (qs.map Ev.exit)) = (freeLive s).filter (fun w => !qs.contains w.addr) ∧
    (run s (qs.map Ev.exit)).quit = false ∧ (run s (qs.map Ev.exit)).rank = s.rank ∧
    (run s (qs.map Ev.exit)).work = s.work := by
  induction qs generalizing s with
  | nil => exact ⟨(List.filter_eq_self.mpr fun _ _ => rfl).symm, hq, rfl, rfl⟩
  | cons q qs ih =>
    rw [List.map_cons, run, step_exit hq]
    obtain ⟨k1, k2, k3⟩ := stepExit_keeps s q
    obtain ⟨i1, i2, i3, i4⟩ := ih (stepExit s q).1 (k1.trans hq)
    refine ⟨?_, i2, i3.trans k2, i4.trans k3⟩
    rw [i1, freeLive_stepExit, List.filter_filter]
    congr 1
    funext w
    simp only [List.contains_cons, Bool.not_or, bne, Bool.and_comm]

end Neutrino.Disp
