import Neutrino.Lemmas.LruRefine
/-
The observation-level step clauses (`obsClause`, Spec/Lru.lean) never fire on the
abstract cache: whatever the specification does in one step, the clauses accept
the observations before and after it.  With `C16_refines_spec` this makes the
driver's oracle sound for the model as well: an ORACLE-FAIL of these shapes is
a behaviour the proved cache cannot show.
-/
namespace Neutrino.Lru

theorem Spec.evict_is_drop (cap : Nat) (bad : List Nat) (needed : Nat) (ll : List Entry) (ev : Bool) :
    ∃ n, (Spec.evict cap bad needed ll ev).1 = ll.drop n := by
  fun_induction Spec.evict cap bad needed ll ev with
  | case1 | case2 | case4 => exact ⟨0, rfl⟩
  | case3 b rest ev _ _ ih => exact ih.elim fun n hn => ⟨n + 1, hn⟩

/-- eviction only fails on an entry whose size cannot be computed -/
theorem Spec.evict_clean {cap : Nat} {bad : List Nat} {needed : Nat} (hn : needed ≤ cap) {l : List Entry} {ev : Bool}
    (hclean : ∀ e ∈ l, e.vid ∉ bad) {r : List Entry × Bool × Bool} (hr : Spec.evict cap bad needed l ev = r) :
    r.2.2 = true := by
  subst hr
  fun_induction Spec.evict cap bad needed l ev with
  | case1 => exact decide_eq_true hn
  | case2 b rest ev _ hb => exact absurd hb (hclean b List.mem_cons_self)
  | case3 b rest ev _ _ ih => exact ih fun e he => hclean e (List.mem_cons_of_mem _ he)
  | case4 => rfl

theorem find_mem_key {l : List Entry} {k : Nat} {el : Entry} (h : l.find? (fun e => e.key == k) = some el) :
    el ∈ l ∧ el.key = k :=
  ⟨List.mem_of_find?_eq_some h, by simpa using List.find?_some h⟩

theorem find_reverse {l : List Entry} (hnd : (l.map (·.key)).Nodup) {k : Nat} {el : Entry}
    (h : l.find? (fun e => e.key == k) = some el) :
    l.reverse.find? (fun e => e.key == k) = some el := by
  obtain ⟨hm, rfl⟩ := find_mem_key h
  exact find_key_of_mem (by rw [List.map_reverse]; exact (List.reverse_perm _).nodup_iff.2 hnd) (List.mem_reverse.2 hm)

theorem find_none_any {l : List Entry} {k : Nat} (h : l.find? (fun e => e.key == k) = none) :
    l.reverse.any (fun e => e.key == k) = false := by
  rw [List.any_eq_false]
  exact fun e he => List.find?_eq_none.mp h e (List.mem_reverse.1 he)

theorem find_none_filter {l : List Entry} {k : Nat} (h : l.find? (fun e => e.key == k) = none) :
    l.filter (fun e => e.key != k) = l :=
  List.filter_eq_self.mpr fun e he => by simpa using List.find?_eq_none.mp h e he

theorem dump_filo (sp : Spec) : (dumpOfSpec sp).filo = sp.items.reverse := rfl

/-- an `if` that answers `x` did not take a branch that answers something else -/
theorem of_ite_eq {α : Type} {c : Prop} [Decidable c] {a b x : α} (ha : a ≠ x) (h : (if c then a else b) = x) :
    ¬c ∧ b = x := by
  by_cases hc : c
  · rw [if_pos hc] at h; exact absurd h ha
  · rw [if_neg hc] at h; exact ⟨hc, h⟩

section clauses
variable {bad : List Nat} {d d1 d2 : Dump} {k : Nat}

theorem obsClause_dirty {op : Op} {out : Out} (h : d1.filo.any (fun e => bad.contains e.vid) = true) :
    obsClause bad op out d1 d2 = none := by
  unfold obsClause
  rw [if_pos h]

theorem obsClause_put_err {vid sz : Nat} : obsClause bad (.put k vid sz) .err d d = none := by
  unfold obsClause
  simp only [beq_self_eq_true, ↓reduceIte, ite_self]

theorem obsClause_put_ok {vid sz : Nat} {ev : Bool} {kept : List Entry} (h2 : d2.filo = ⟨k, vid, sz⟩ :: kept)
    (hk : kept <+: d1.filo.filter (fun e => e.key != k)) :
    obsClause bad (.put k vid sz) (.okPut ev) d1 d2 = none := by
  unfold obsClause
  simp only [h2, beq_self_eq_true, Bool.true_and, List.isPrefixOf_iff_prefix.2 hk, ↓reduceIte, ite_self]

theorem obsClause_get_val {e : Entry} (h1 : d1.filo.find? (fun e => e.key == k) = some e)
    (h2 : d2.filo = e :: d1.filo.filter (fun e => e.key != k)) :
    obsClause bad (.get k) (.val e.vid) d1 d2 = none := by
  unfold obsClause
  simp only [h1, h2, beq_self_eq_true, Bool.true_and, ↓reduceIte, ite_self]

theorem obsClause_del_val {e : Entry} (h1 : d1.filo.find? (fun e => e.key == k) = some e)
    (h2 : d2.filo = d1.filo.filter (fun e => e.key != k)) :
    obsClause bad (.del k) (.val e.vid) d1 d2 = none := by
  unfold obsClause
  simp only [h1, h2, beq_self_eq_true, Bool.true_and, ↓reduceIte, ite_self]

theorem obsClause_get_notFound (h : d.filo.any (fun e => e.key == k) = false) :
    obsClause bad (.get k) .notFound d d = none := by
  unfold obsClause
  simp only [h, Bool.false_eq_true, beq_self_eq_true, ↓reduceIte, ite_self]

theorem obsClause_del_no (h : d.filo.any (fun e => e.key == k) = false) :
    obsClause bad (.del k) .no d d = none := by
  unfold obsClause
  simp only [h, Bool.false_eq_true, beq_self_eq_true, ↓reduceIte, ite_self]

end clauses

/-- what an eviction keeps is a most-recent part of what it started from -/
theorem evict_kept_prefix {cap : Nat} {bad : List Nat} {sz k : Nat} {l base items : List Entry} {ev ok : Bool}
    (hbase : base = l.filter (fun e => e.key != k))
    (heq : Spec.evict cap bad sz base false = (items, ev, ok)) :
    items.reverse <+: l.reverse.filter (fun e => e.key != k) := by
  obtain ⟨n, hn⟩ := Spec.evict_is_drop cap bad sz base false
  rw [heq] at hn
  cases (hn : items = _)
  rw [List.filter_reverse, ← hbase]
  exact List.reverse_prefix.2 (List.drop_suffix _ _)

/-- **The step clauses accept every step of the abstract cache.** -/
theorem obsClause_sound (sp : Spec) (op : Op) (hnd : (sp.items.map (·.key)).Nodup) :
    obsClause sp.bad op (sp.step op).2 (dumpOfSpec sp) (dumpOfSpec (sp.step op).1) = none := by
  by_cases hb : (dumpOfSpec sp).filo.any (fun e => sp.bad.contains e.vid) = true
  · exact obsClause_dirty hb
  have hclean : ∀ e ∈ sp.items, e.vid ∉ sp.bad := fun e he hin =>
    hb (List.any_eq_true.2 ⟨e, List.mem_reverse.2 he, List.contains_iff_mem.2 hin⟩)
  fun_cases Spec.step sp op
  -- poison, heal
  · unfold obsClause; simp only [ite_self]
  · unfold obsClause; simp only [ite_self]
  -- put refused
  · exact obsClause_put_err
  · exact obsClause_put_err
  · exact obsClause_put_err
  -- put over a resident key; the eviction cannot fail as every resident entry has a size
  · obtain ⟨hm, rfl⟩ := find_mem_key ‹_›
    exact obsClause_put_ok List.reverse_append (evict_kept_prefix (erase_eq_filter hnd hm) ‹_›)
  · exact absurd (Spec.evict_clean (Nat.le_of_not_lt ‹_›) (fun e he => hclean e (List.mem_of_mem_erase he)) ‹_›) ‹_›
  -- put of a new key
  · exact obsClause_put_ok List.reverse_append (evict_kept_prefix (find_none_filter ‹_›).symm ‹_›)
  · exact absurd (Spec.evict_clean (Nat.le_of_not_lt ‹_›) hclean ‹_›) ‹_›
  -- get
  · exact obsClause_get_notFound (find_none_any ‹_›)
  · obtain ⟨hm, rfl⟩ := find_mem_key ‹_›
    refine obsClause_get_val (find_reverse hnd ‹_›) ?_
    rw [dump_filo, dump_filo, List.filter_reverse, ← erase_eq_filter hnd hm]
    simp
  -- del
  · exact obsClause_del_no (find_none_any ‹_›)
  · exact absurd ‹_ ∈ sp.bad› (hclean _ (find_mem_key ‹_›).1)
  · obtain ⟨hm, rfl⟩ := find_mem_key ‹_›
    refine obsClause_del_val (find_reverse hnd ‹_›) ?_
    rw [dump_filo, dump_filo, List.filter_reverse, ← erase_eq_filter hnd hm]

end Neutrino.Lru
