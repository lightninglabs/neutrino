import Neutrino.Lemmas.StoreCrash
namespace Neutrino.Store

def postOf (l : Log) (target : Nat) : Log :=
  { blocks := l.blocks.take (target + 1), filters := l.filters.take (target + 1) }

/-- `lx` is a state the rollback of `l` down to `post` passes through -/
def Between (l post lx : Log) : Prop :=
  lx.blocks <+: l.blocks ∧ post.blocks <+: lx.blocks ∧ lx.filters <+: l.filters ∧ post.filters <+: lx.filters

def RollOutcome (l post : Log) (inj : Inj) : R Out → Prop
  | .crashed d' => (∃ k t, inj = Inj.crash k t) ∧ ∃ lx xb xf, Ahead d' lx xb xf ∧ Between l post lx
  | .ok o c' => o = .ok ∧ Rep c'.d post ∧ c'.inj = inj

theorem rollOutcome_iff {l post : Log} {inj : Inj} {r : R Out} :
    RollOutcome l post inj r ↔
      Outcome inj (AheadIn (Between l post)) (fun o c' => o = .ok ∧ Rep c'.d post) r := by
  cases r with
  | crashed d' => exact Iff.rfl
  | ok o c' => exact ⟨fun ⟨a, b, c⟩ => ⟨c, a, b⟩, fun ⟨c, a, b⟩ => ⟨a, b, c⟩⟩

theorem postOf_of_le {d : Durable} {l : Log} (hrep : Rep d l) {target : Nat} (h : l.blocks.length ≤ target + 1) :
    postOf l target = l := by
  rw [postOf, List.take_of_length_le h, List.take_of_length_le (Nat.le_trans hrep.fle h)]

theorem rollTo_outcome (target : Nat) :
    ∀ (fuel : Nat) (c : Ctx) (l : Log), Rep c.d l → NoFault c.inj → l.blocks.length ≤ fuel + target + 1 →
      RollOutcome l (postOf l target) c.inj
        (rollTo target fuel c (l.blocks.length - 1) (l.filters.length - 1)) := by
  intro fuel
  induction fuel with
  | zero =>
    intro c l hrep hnf hfuel
    rw [rollTo, postOf_of_le hrep (by simpa using hfuel)]
    exact ⟨rfl, hrep, rfl⟩
  | succ fuel ih =>
    intro c l hrep hnf hfuel
    rw [rollTo]
    by_cases hdone : l.blocks.length - 1 ≤ target
    · rw [if_pos hdone, postOf_of_le hrep (Nat.sub_le_iff_le_add.mp hdone)]
      exact ⟨rfl, hrep, rfl⟩
    rw [if_neg hdone, rollOutcome_iff]
    -- one round: the filter store if it is as high as the block store, then the block store;
    -- `lm` is the log in between, `l2` the log after the round
    have htl : target + 1 ≤ l.blocks.length - 1 := Nat.lt_of_not_le hdone
    have hlen : 1 < l.blocks.length := Nat.lt_of_sub_pos (Nat.lt_of_lt_of_le (Nat.succ_pos target) htl)
    let lm : Log := { l with filters := l.filters.take (l.blocks.length - 1) }
    let l2 : Log := { lm with blocks := l.blocks.take (l.blocks.length - 1) }
    have hpB : (postOf l target).blocks <+: l2.blocks := List.take_prefix_take_left htl
    have hpF : (postOf l target).filters <+: lm.filters := List.take_prefix_take_left htl
    have hSl : Between l (postOf l target) l :=
      ⟨List.prefix_refl _, hpB.trans (List.take_prefix _ _), List.prefix_refl _, hpF.trans (List.take_prefix _ _)⟩
    have hSm : Between l (postOf l target) lm :=
      ⟨List.prefix_refl _, hpB.trans (List.take_prefix _ _), List.take_prefix _ _, hpF⟩
    have hS2 : Between l (postOf l target) l2 := ⟨List.take_prefix _ _, hpB, List.take_prefix _ _, hpF⟩
    obtain ⟨nt, hnt⟩ : ∃ nt, l.blocks[l.blocks.length - 2]? = some nt :=
      ⟨_, List.getElem?_eq_getElem (Nat.sub_lt (Nat.zero_lt_of_lt hlen) Nat.two_pos)⟩
    obtain ⟨tip, hg1⟩ : ∃ tip, c.d.bf.get? (l.blocks.length - 1) = some tip := by
      rw [hrep.bents]; exact ⟨_, List.getElem?_eq_getElem (Nat.sub_lt (Nat.zero_lt_of_lt hlen) Nat.one_pos)⟩
    have hg2 : prevOf c.d (l.blocks.length - 1) = some nt := by
      rw [prevOf, if_neg (Nat.sub_ne_zero_of_lt hlen), hrep.bents]; exact hnt
    simp only [hg1, hg2]
    refine Outcome.bind (D1 := fun r c1 => r = some (lm.filters.length - 1) ∧ Rep c1.d lm) ?_
      fun r c1 hi1 ⟨hr, hrep1⟩ => ?_
    · by_cases hreg : l.blocks.length - 1 ≤ l.filters.length - 1
      · -- the filter store is as high as the block store
        have hfl : l.filters.length = l.blocks.length :=
          Nat.le_antisymm hrep.fle ((Nat.sub_le_sub_iff_right (List.length_pos_iff.mpr hrep.neF)).mp hreg)
        have hlm : { l with filters := l.filters.take (l.filters.length - 1) } = lm := by rw [hfl]
        obtain ⟨fh, hfh⟩ : ∃ fh, l.filters[l.filters.length - 2]? = some fh :=
          ⟨_, List.getElem?_eq_getElem (Nat.sub_lt (List.length_pos_iff.mpr hrep.neF) Nat.two_pos)⟩
        rw [if_pos hreg]
        refine ((rollbackFilter_outcome c l nt fh hrep hnf (hfl ▸ hlen) (hfl ▸ hnt) hfh).mono
          (fun _ h => h.mono fun _ hx => hx.elim (· ▸ hSl) (· ▸ hlm ▸ hSm)) fun _ _ h => h).bind
          fun o c1 hi1 ⟨ho, hrep1⟩ => ?_
        subst ho
        refine ⟨hi1, ?_, hlm ▸ hrep1⟩
        show some (l.filters.length - 2) = some ((l.filters.take (l.blocks.length - 1)).length - 1)
        rw [List.length_take_of_le (hfl ▸ Nat.sub_le _ _), hfl]; rfl
      · -- the filter store is already lower: `lm` is `l`
        have hf : l.filters.length ≤ l.blocks.length - 1 := by
          rw [← len_pred_succ hrep.neF]; exact Nat.lt_of_not_le hreg
        have hlm : lm = l := congrArg (Log.mk l.blocks) (List.take_of_length_le hf)
        rw [if_neg hreg, hlm]
        exact ⟨rfl, rfl, hrep⟩
    · subst hr
      have hB := rollbackBlocks_outcome c1 lm 1 nt hrep1 (hi1 ▸ hnf) Nat.one_ne_zero hlen (List.length_take_le _ _) hnt
      refine ((hi1 ▸ hB).mono (fun _ h => h.mono fun _ hx => hx.elim (· ▸ hSm) (· ▸ hS2)) fun _ _ h => h).bind
        fun o c2 hi2 ⟨ho, hrep2⟩ => ?_
      subst ho
      -- the remaining rounds start from `l2` and end where the rounds from `l` end
      have hl2 : l2.blocks.length = l.blocks.length - 1 := List.length_take_of_le (Nat.sub_le _ _)
      have hpost : postOf l2 target = postOf l target := by
        simp only [postOf, l2, lm, List.take_take, Nat.min_eq_left htl]
      have := ih c2 l2 hrep2 (hi2 ▸ hnf) (by
        rw [hl2]; exact Nat.sub_le_of_le_add (Nat.add_right_comm fuel 1 target ▸ hfuel))
      rw [hl2, hpost, hi2, rollOutcome_iff] at this
      exact this.mono (fun _ h => h.mono fun _ ⟨h1, h2, h3, h4⟩ =>
        ⟨h1.trans (List.take_prefix _ _), h2, h3.trans (List.take_prefix _ _), h4⟩) fun _ _ h => h

end Neutrino.Store
