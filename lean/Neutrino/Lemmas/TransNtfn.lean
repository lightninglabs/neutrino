/-
`blockManager.NotificationsSinceHeight` as the CODE defines it (translated from blockmanager.go on every
run, Gen/TransNtfn.lean) is the model's `BM.backlog`: nothing for height 0 or the filter tip itself, an
error above the filter tip, else the blocks `h+1 … tip` in ascending order, each fetched by height from
the block header store (an error of the store fails the whole request).
-/
import Neutrino.Gen.TransNtfn
import Neutrino.Model.BlockMgr
namespace Neutrino.BM
open Neutrino.Gen.TransNtfn Neutrino.GoInt

def upFrom : Nat → Nat → List Nat
  | _, 0 => []
  | i, n + 1 => i :: upFrom (i + 1) n

theorem rangeUpN_eq_upFrom (lo hi : Nat) : rangeUpN lo hi = upFrom lo (hi - lo) := by
  unfold rangeUpN
  generalize hi - lo = k
  induction k generalizing lo with
  | zero => rfl
  | succ k ih =>
    rw [List.range_succ_eq_map, List.map_cons, List.map_map, upFrom, ← ih (lo + 1)]
    congr 1
    apply List.map_congr_left
    intro a _
    simp only [Function.comp_apply]
    omega

/-- what the block header store answers for a height, given the committed log -/
def fetchOf (log : List Nat) (hdr : Nat → T_wire_BlockHeader) (i : Nat) : Option T_wire_BlockHeader × Bool :=
  match log[i]? with
  | some id => (some (hdr id), false)
  | none => (none, true)

theorem backlog_loop (log : List Nat) (hdr : Nat → T_wire_BlockHeader)
    (newConn : T_wire_BlockHeader → Nat → Option T_blockntfns_Connected)
    (box : Option T_blockntfns_Connected → Atom) (n : Nat) :
    ∀ (i : Nat) (acc : List Atom),
      NotificationsSinceHeight_loop1 (fetchOf log hdr) newConn box (upFrom i n) acc
        = match backlogRange log i n with
          | none => Ctl.ret ([], 0, true)
          | some bl => Ctl.fall (acc ++ bl.map fun nd => box (newConn (hdr nd.id) nd.height)) := by
  induction n with
  | zero => intro i acc; simp [upFrom, NotificationsSinceHeight_loop1, backlogRange]
  | succ n ih =>
    intro i acc
    cases hl : log[i]? with
    | none =>
      have hf : fetchOf log hdr i = (none, true) := by simp only [fetchOf, hl]
      simp [upFrom, NotificationsSinceHeight_loop1, backlogRange, hf, hl]
    | some id =>
      have hf : fetchOf log hdr i = (some (hdr id), false) := by simp only [fetchOf, hl]
      simp only [upFrom, NotificationsSinceHeight_loop1, backlogRange, hf, hl, deref_some, ↓reduceIte]
      rw [ih]
      cases backlogRange log (i + 1) n with
      | none => simp
      | some bl => simp [List.append_assoc]

theorem trans_notificationsSinceHeight (s : State) (h : Nat) (hdr : Nat → T_wire_BlockHeader)
    (newConn : T_wire_BlockHeader → Nat → Option T_blockntfns_Connected)
    (box : Option T_blockntfns_Connected → Atom) (hb : s.ftip.height + 1 < 2 ^ 32) :
    NotificationsSinceHeight h s.ftip.height (fetchOf s.log hdr) newConn box
      = match (backlog s h).res with
        | .err => ([], 0, true)
        | .ok => ((backlog s h).bl.map (fun nd => box (newConn (hdr nd.id) nd.height)), (backlog s h).best, false) := by
  unfold NotificationsSinceHeight backlog
  generalize s.ftip.height = best at hb ⊢
  by_cases h0 : h = 0
  · subst h0; simp
  by_cases h1 : best = h
  · subst h1; simp [h0]
  by_cases h2 : best < h
  · simp [h0, h1, h2]
  · have hlt : h < best := Nat.lt_of_le_of_ne (Nat.le_of_not_lt h2) fun e => h1 e.symm
    -- `height + 1` does not wrap: it is at most the filter tip
    have hu : uadd 32 h 1 = h + 1 := uadd_of_lt (Nat.lt_trans (Nat.succ_lt_succ hlt) hb)
    simp only [h0, h1, h2, ↓reduceIte, hu, rangeUpN_eq_upFrom, Nat.add_sub_add_right, backlog_loop]
    cases backlogRange s.log (h + 1) (best - h) <;> simp

end Neutrino.BM
