/-
Lemmas for C13's enforcement clause: `IsBanned` in terms of the record under the address's key, what
`BanPeer` leaves connected, and the invariant `Clean` of the connection logic.
-/
import Neutrino.Model.BanEnforce
import Neutrino.Lemmas.Ban
namespace Neutrino.Ban

theorem isBanned_of_no_key (s : State) (t : Int) {p : Peer} (h : keyOf p.target = none) :
    isBanned s t p = (s, false) := by
  rw [isBanned, step_status_none s t h, errOf]
  cases resolve p.target <;> rfl

theorem isBanned_of_key (s : State) (t : Int) {p : Peer} {k : Bytes} (h : keyOf p.target = some k) :
    isBanned s t p =
      match lookup s.recs k with
      | none => (s, false)
      | some v => if t ≥ v.1 * 1000 then ({ recs := del s.recs k }, false) else (s, true) := by
  rw [isBanned, step_status_some s t h]
  cases lookup s.recs k with
  | none => rfl
  | some v => by_cases hexp : t ≥ v.1 * 1000 <;> simp only [hexp, ↓reduceIte]

theorem isBanned_iff_record (s : State) (now : Int) (p : Peer) :
    (isBanned s now p).2 = true ↔
      ∃ k e r, keyOf p.target = some k ∧ lookup s.recs k = some (e, r) ∧ now < e * 1000 := by
  cases hk : keyOf p.target with
  | none =>
    rw [isBanned_of_no_key s now hk]
    exact ⟨fun h => (by cases h), fun ⟨_, _, _, h, _⟩ => (by cases h)⟩
  | some k =>
    rw [isBanned_of_key s now hk]
    constructor
    · intro h
      cases hl : lookup s.recs k with
      | none => rw [hl] at h; cases h
      | some v =>
        rw [hl] at h
        dsimp only at h
        by_cases hexp : now ≥ v.1 * 1000
        · rw [if_pos hexp] at h; cases h
        · exact ⟨k, v.1, v.2, rfl, hl, Int.not_le.mp hexp⟩
    · intro ⟨_, e, r, h1, hl, hlt⟩
      cases h1
      rw [hl]
      exact congrArg Prod.snd (if_neg (Int.not_le.mpr hlt))

theorem lookup_after_isBanned {s : State} {t : Int} {p : Peer} {k : Bytes} {v : Int × Nat}
    (h : lookup (isBanned s t p).1.recs k = some v) : lookup s.recs k = some v := by
  cases hk : keyOf p.target with
  | none => rw [isBanned_of_no_key s t hk] at h; exact h
  | some k0 =>
    rw [isBanned_of_key s t hk] at h
    split at h
    · exact h
    · split at h
      · exact lookup_del_some h
      · exact h

theorem lookup_of_not_banned {s : State} {t : Int} {p : Peer} {k : Bytes} (hk : keyOf p.target = some k)
    (h : (isBanned s t p).2 = false) : lookup (isBanned s t p).1.recs k = none := by
  rw [isBanned_of_key s t hk] at h ⊢
  cases hl : lookup s.recs k with
  | none => exact hl
  | some v =>
    rw [hl] at h
    dsimp only at h ⊢
    by_cases hexp : t ≥ v.1 * 1000
    · rw [if_pos hexp, lookup_del, if_pos rfl]
    · rw [if_neg hexp] at h
      cases h

theorem lookup_after_unban {s : State} {t : Int} {tg : Target} {k : Bytes} {v : Int × Nat}
    (h : lookup (step s t (.unban tg)).1.recs k = some v) : lookup s.recs k = some v := by
  cases hk : keyOf tg with
  | none => rw [step_unban_none s t hk] at h; exact h
  | some k0 => rw [step_unban_some s t hk] at h; exact lookup_del_some h

theorem status_after_ban (s : State) (t t' : Int) {tg tg' : Target} {k : Bytes} (r : Nat) (d : Int)
    (hk : keyOf tg = some k) (hk' : keyOf tg' = some k) (h : t' < (t + d) / 1000 * 1000) :
    step (step s t (.ban tg r d)).1 t' (.status tg') =
      ((step s t (.ban tg r d)).1, .banned r ((t + d) / 1000 * 1000)) := by
  rw [step_status_some _ t' hk', step_ban_some s t r d hk, lookup_put, if_pos rfl]
  exact if_neg (Int.not_le.mpr h)

theorem isBanned_after_ban (s : State) (t t' : Int) {tg : Target} {p : Peer} {k : Bytes} (r : Nat) (d : Int)
    (hk : keyOf tg = some k) (hk' : keyOf p.target = some k) (h : t' < (t + d) / 1000 * 1000) :
    (isBanned (step s t (.ban tg r d)).1 t' p).2 = true := by
  rw [isBanned, status_after_ban s t t' r d hk hk' h]

theorem within_banDuration {t t' : Int} (h : t' < t + banDurationMs - 1000) :
    t' < (t + banDurationMs) / 1000 * 1000 :=
  Int.lt_trans h (sub_lt_floorSec _)

theorem lt_banDuration (t : Int) : t < t + banDurationMs - 1000 := by
  unfold banDurationMs
  omega

theorem mem_without {l : List Peer} {p q : Peer} (h : q ∈ without l p) : q ∈ l ∧ q ≠ p := by
  simpa only [without, List.mem_filter, decide_eq_true_eq] using h

theorem not_mem_without (l : List Peer) (p : Peer) : p ∉ without l p :=
  fun h => (mem_without h).2 rfl

theorem mem_afterBan {l : List Peer} {p q : Peer} (h : q ∈ afterBan l p) : q ∈ l ∧ q ≠ p := by
  unfold afterBan at h
  split at h
  · exact mem_without h
  · exact mem_without (List.mem_filter.mp h).1

theorem not_mem_afterBan (l : List Peer) (p : Peer) : p ∉ afterBan l p :=
  fun h => (mem_afterBan h).2 rfl

theorem not_mem_afterBan_of_key {l : List Peer} {p q : Peer} {k : Bytes}
    (hp : keyOf p.target = some k) (hq : keyOf q.target = some k) : q ∉ afterBan l p := by
  obtain ⟨ipb, mb, hrp, hkp⟩ := keyOf_eq_some hp
  obtain ⟨ipq, mq, hrq, hkq⟩ := keyOf_eq_some hq
  obtain ⟨h16, hsome, hm⟩ := encodeKey_inj hkq hkp
  intro h
  simp only [afterBan, hrp, List.mem_filter, hrq, sameNet, ← h16, hsome, hm, beq_self_eq_true, Bool.and_self,
    Bool.not_true, Bool.false_eq_true, and_false] at h

/-- Every connected peer's network has no record, or one that has lapsed by `T`. -/
def Clean (n : Net) (T : Int) : Prop :=
  ∀ p, p ∈ n.connected → ∀ k e r, keyOf p.target = some k → lookup n.store.recs k = some (e, r) → e * 1000 ≤ T

theorem clean_shrink {n n' : Net} {T t : Int} (h : Clean n T) (hT : T ≤ t)
    (hs : ∀ k v, lookup n'.store.recs k = some v → lookup n.store.recs k = some v)
    (hc : ∀ p, p ∈ n'.connected → p ∈ n.connected) : Clean n' t :=
  fun p hp k e r hk hl => Int.le_trans (h p (hc p hp) k e r hk (hs k _ hl)) hT

theorem clean_banPeer {n : Net} {T t : Int} (h : Clean n T) (hT : T ≤ t)
    (p : Peer) (reason : Nat) : Clean (banPeer n t p reason) t := by
  intro q hq k e r hk hl
  refine Int.le_trans (h q (mem_afterBan hq).1 k e r hk ?_) hT
  cases hkp : keyOf p.target with
  | none => rw [banPeer, step_ban_none _ _ _ _ hkp] at hl; exact hl
  | some k0 =>
    rw [banPeer, step_ban_some _ _ _ _ hkp, lookup_put] at hl
    split at hl
    next hkk => exact absurd hq (not_mem_afterBan_of_key hkp (hkk ▸ hk))
    next => exact hl

theorem clean_ite {c : Prop} [Decidable c] {a b : Net} {t : Int} (ha : c → Clean a t) (hb : ¬ c → Clean b t) :
    Clean (if c then a else b) t := by
  split
  · exact ha ‹_›
  · exact hb ‹_›

theorem clean_step (n : Net) (T t : Int) (e : Ev) (h : Clean n T) (hT : T ≤ t) :
    Clean (stepNet n t e) t := by
  have same : Clean n t := clean_shrink h hT (fun _ _ hl => hl) (fun _ hq => hq)
  have asked : ∀ p pend, Clean { n with store := (isBanned n.store t p).1, pending := pend } t :=
    fun _ _ => clean_shrink h hT (fun _ _ => lookup_after_isBanned) (fun _ hq => hq)
  cases e with
  | outbound p => exact clean_ite (fun _ => asked p _) fun _ => clean_ite (fun _ => asked p _) fun _ => asked p _
  | version p sv =>
    exact clean_ite (fun _ => clean_ite (fun _ => same) fun _ => clean_banPeer h hT p reasonNoCompactFilters)
      fun _ => same
  | addPeer p =>
    refine clean_ite (fun _ => clean_ite (fun _ => asked p _) fun hb => clean_ite (fun _ => asked p _) fun _ => ?_)
      fun _ => same
    -- admitted: `IsBanned` has just said "not banned", so no record is left under `p`'s key
    intro q hq k e r hk hl
    cases List.mem_cons.mp hq with
    | inl heq =>
      subst heq
      rw [lookup_of_not_banned hk (Bool.eq_false_iff.mpr hb)] at hl
      cases hl
    | inr hqc => exact asked p [] q hqc k e r hk hl
  | banPeer p reason => exact clean_banPeer h hT p reason
  | unbanPeer p => exact clean_shrink h hT (fun _ _ => lookup_after_unban) (fun _ hq => hq)
  | done p => exact clean_shrink h hT (fun _ _ hl => hl) (fun _ hq => (mem_without hq).1)

theorem clean_run (n : Net) (T : Int) (evs : EvHist) (h : Clean n T) (hm : monoEv T evs) :
    Clean (runNet n evs) (endEv T evs) := by
  induction evs generalizing n T with
  | nil => exact h
  | cons x rest ih => exact ih _ _ (clean_step n T x.1 x.2 h hm.1) hm.2

theorem not_banned_of_clean (n : Net) (T now : Int) (hT : T ≤ now) (h : Clean n T) (p : Peer) (hp : p ∈ n.connected) :
    (isBanned n.store now p).2 = false := by
  apply Bool.eq_false_iff.mpr
  intro hb
  obtain ⟨k, e, r, hk, hl, hlt⟩ := (isBanned_iff_record _ _ _).mp hb
  exact Int.lt_irrefl _ (Int.lt_of_lt_of_le hlt (Int.le_trans (h p hp k e r hk hl) hT))

theorem stepNet_version_reject {n : Net} (t : Int) {p : Peer} {services : Nat}
    (hp : p ∈ n.pending) (hr : hasRequired services = false) :
    stepNet n t (.version p services) =
      { banPeer n t p reasonNoCompactFilters with pending := without n.pending p } := by
  simp only [stepNet, hp, hr, ↓reduceIte, Bool.false_eq_true, banPeer]

theorem version_rejected {n : Net} {t t' : Int} {p : Peer} {services : Nat} {k : Bytes}
    (hp : p ∈ n.pending) (hk : keyOf p.target = some k) (hr : hasRequired services = false)
    (h : t' < t + banDurationMs - 1000) :
    let n' := stepNet n t (.version p services)
    (∃ e, (step n'.store t' (.status p.target)).2 = .banned reasonNoCompactFilters e) ∧
    (isBanned n'.store t' p).2 = true ∧ p ∉ n'.pending ∧ p ∉ n'.connected := by
  rw [stepNet_version_reject t hp hr]
  exact ⟨⟨_, congrArg Prod.snd (status_after_ban _ t t' _ _ hk hk (within_banDuration h))⟩,
    isBanned_after_ban _ t t' _ _ hk hk (within_banDuration h), not_mem_without _ _, not_mem_afterBan _ _⟩

end Neutrino.Ban
