/-
The checkpoint lookups the CODE defines (Gen/TransBM.lean, regenerated from blockmanager.go on every
run) are the lookups of the hand model (`BM.findNextCp`, `BM.findPrevCp`) on every ascending
checkpoint list with non-negative heights.
-/
import Neutrino.Gen.TransBM
import Neutrino.Model.BlockMgr
namespace Neutrino.BM
open Neutrino.Gen.TransBM Neutrino.GoInt

/-- a translated `chaincfg.Checkpoint` as the model's checkpoint (hashes are atoms) -/
def absCp (c : T_chaincfg_Checkpoint) : Cp := ⟨c.Height.toNat, c.Hash⟩

/-- what the theorems ask of the code-level checkpoint list: ascending, heights not negative -/
structure CpsOkT (cps : List T_chaincfg_Checkpoint) : Prop where
  sorted : cps.Pairwise (fun a b => a.Height < b.Height)
  nonneg : ∀ c ∈ cps, 0 ≤ c.Height

theorem CpsOkT.tail {c : T_chaincfg_Checkpoint} {l : List T_chaincfg_Checkpoint} (ok : CpsOkT (c :: l)) : CpsOkT l :=
  ⟨(List.pairwise_cons.mp ok.sorted).2, fun x hx => ok.nonneg x (List.mem_cons_of_mem _ hx)⟩

theorem absCp_lt {c : T_chaincfg_Checkpoint} {h : Int} (hc : 0 ≤ c.Height) (h0 : 0 ≤ h) :
    (absCp c).height < h.toNat ↔ c.Height < h := by
  rw [absCp, Int.toNat_lt hc, Int.toNat_of_nonneg h0]

theorem lt_absCp {c : T_chaincfg_Checkpoint} {h : Int} (hc : 0 ≤ c.Height) (h0 : 0 ≤ h) :
    h.toNat < (absCp c).height ↔ h < c.Height := by
  rw [absCp, Int.toNat_lt h0, Int.toNat_of_nonneg hc]

theorem foldl_prev_unchanged (l : List Cp) (h : Nat) (acc : Cp) (hall : ∀ c ∈ l, h ≤ c.height) :
    l.foldl (fun acc c => if c.height < h then c else acc) acc = acc := by
  induction l generalizing acc with
  | nil => rfl
  | cons c l ih =>
    have h1 : ¬ c.height < h := Nat.not_lt.mpr (hall c (List.mem_cons_self ..))
    simp only [List.foldl_cons, h1, ↓reduceIte]
    exact ih acc (fun x hx => hall x (List.mem_cons_of_mem _ hx))

theorem findPrev_loop (h : Int) (h0 : 0 ≤ h) (l : List T_chaincfg_Checkpoint) (ok : CpsOkT l)
    (acc : T_chaincfg_Checkpoint) :
    (findPreviousHeaderCheckpoint_loop1 h l (some acc)).map absCp
      = some ((l.map absCp).foldl (fun acc c => if c.height < h.toNat then c else acc) (absCp acc)) := by
  induction l generalizing acc with
  | nil => rfl
  | cons c l ih =>
    have hiff := absCp_lt (ok.nonneg c (List.mem_cons_self ..)) h0
    by_cases hlt : c.Height < h
    · simp only [findPreviousHeaderCheckpoint_loop1, hlt, if_true, List.map_cons, List.foldl_cons, hiff.mpr hlt]
      exact ih ok.tail c
    · simp only [findPreviousHeaderCheckpoint_loop1, hlt, if_false, List.map_cons, List.foldl_cons, mt hiff.mp hlt,
        Option.map_some]
      rw [foldl_prev_unchanged]
      -- the list ascends: nothing after `c` is below `h` either
      intro x hx
      obtain ⟨y, hy, rfl⟩ := List.mem_map.mp hx
      exact Int.toNat_le_toNat (Int.le_trans (Int.not_lt.mp hlt)
        (Int.le_of_lt ((List.pairwise_cons.mp ok.sorted).1 y hy)))

/-- **the code's `findPreviousHeaderCheckpoint` is the model's `findPrevCp`** (genesis is atom 0) -/
theorem trans_findPrev (h : Int) (h0 : 0 ≤ h) (cps : List T_chaincfg_Checkpoint) (ok : CpsOkT cps) :
    (findPreviousHeaderCheckpoint h cps 0).map absCp = some (findPrevCp (cps.map absCp) h.toNat) := by
  unfold findPreviousHeaderCheckpoint findPrevCp
  exact findPrev_loop h h0 cps ok _

/-- the height the model's scan yields depends on the height of its start value only -/
theorem foldl_prev_height (k : Nat) (l : List Cp) (a b : Cp) (hab : a.height = b.height) :
    (l.foldl (fun acc c => if c.height < k then c else acc) a).height
      = (l.foldl (fun acc c => if c.height < k then c else acc) b).height := by
  induction l generalizing a b with
  | nil => exact hab
  | cons c l ih =>
    rw [List.foldl_cons, List.foldl_cons]
    by_cases hc : c.height < k
    · rw [if_pos hc, if_pos hc]
    · rw [if_neg hc, if_neg hc]; exact ih a b hab

/-- the height it yields (all the model ever uses), whatever the genesis hash -/
theorem trans_findPrev_height (h : Int) (h0 : 0 ≤ h) (cps : List T_chaincfg_Checkpoint) (ok : CpsOkT cps) (g : Atom) :
    ((findPreviousHeaderCheckpoint h cps g).map (fun c => c.Height.toNat))
      = some (findPrevCp (cps.map absCp) h.toNat).height := by
  have e : (findPreviousHeaderCheckpoint h cps g).map (fun c => c.Height.toNat)
      = ((findPreviousHeaderCheckpoint h cps g).map absCp).map (·.height) := by rw [Option.map_map]; rfl
  rw [e, findPreviousHeaderCheckpoint, findPrev_loop h h0 cps ok ⟨0, g⟩]
  exact congrArg some (foldl_prev_height _ _ _ _ rfl)

/-- `xs[len(xs)-1]` is the last element -/
theorem idx_last_eq (cps : List T_chaincfg_Checkpoint) (hne : cps ≠ []) :
    idx cps (len cps - 1) = cps.getLast hne := by
  have : len cps - 1 = ((cps.length - 1 : Nat) : Int) := by
    rw [len_eq, Int.natCast_sub (List.length_pos_iff.mpr hne)]; rfl
  rw [this, idx_natCast, List.getD_eq_getElem?_getD, ← List.getLast?_eq_getElem?, List.getLast?_eq_some_getLast hne]
  rfl

/-- the backwards scan over a descending list `r` (= an ascending prefix reversed) -/
theorem findNext_loop (h : Int) (r : List T_chaincfg_Checkpoint)
    (sorted : r.Pairwise (fun a b => b.Height < a.Height)) (acc : Option T_chaincfg_Checkpoint) :
    findNextHeaderCheckpoint_loop1 h r acc
      = (r.reverse.find? (fun c => decide (h < c.Height))).or acc := by
  induction r generalizing acc with
  | nil => simp [findNextHeaderCheckpoint_loop1]
  | cons e rest ih =>
    unfold findNextHeaderCheckpoint_loop1
    have hs := List.pairwise_cons.mp sorted
    by_cases hlt : h < e.Height
    · simp only [hlt, ↓reduceIte, List.reverse_cons, List.find?_append]
      rw [ih hs.2]
      simp [hlt]
    · simp only [hlt, ↓reduceIte, List.reverse_cons, List.find?_append]
      have hnone : rest.reverse.find? (fun c => decide (h < c.Height)) = none := by
        rw [List.find?_eq_none]
        exact fun x hx hx' => hlt (Int.lt_trans (of_decide_eq_true hx') (hs.1 x (List.mem_reverse.mp hx)))
      simp [hnone, hlt]

theorem find?_map_absCp (cps : List T_chaincfg_Checkpoint) (ok : ∀ c ∈ cps, 0 ≤ c.Height) (h : Int) (h0 : 0 ≤ h) :
    (cps.map absCp).find? (fun c => decide (h.toNat < c.height))
      = (cps.find? (fun c => decide (h < c.Height))).map absCp := by
  induction cps with
  | nil => rfl
  | cons c l ih =>
    have hiff := lt_absCp (ok c (List.mem_cons_self ..)) h0
    rw [List.map_cons, List.find?_cons, List.find?_cons]
    by_cases hlt : h < c.Height
    · rw [decide_eq_true hlt, decide_eq_true (hiff.mpr hlt)]; rfl
    · rw [decide_eq_false hlt, decide_eq_false (mt hiff.mp hlt)]
      exact ih (fun x hx => ok x (List.mem_cons_of_mem _ hx))

/-- **the code's `findNextHeaderCheckpoint` is the model's `findNextCp`** -/
theorem trans_findNext (h : Int) (h0 : 0 ≤ h) (cps : List T_chaincfg_Checkpoint) (ok : CpsOkT cps) :
    (findNextHeaderCheckpoint h cps).map absCp = findNextCp (cps.map absCp) h.toNat := by
  unfold findNextCp
  rw [find?_map_absCp cps ok.nonneg h h0]
  congr 1
  unfold findNextHeaderCheckpoint
  simp only []
  by_cases hnil : cps = []
  · subst hnil; simp
  · have hlen : ¬ len cps = 0 := fun hh => hnil (len_eq_zero.mp hh)
    simp only [hlen, ↓reduceIte]
    -- split the list into its front and its last element
    obtain ⟨front, last, rfl⟩ : ∃ front last, cps = front ++ [last] :=
      ⟨cps.dropLast, cps.getLast hnil, (List.dropLast_concat_getLast hnil).symm⟩
    have hidx : idx (front ++ [last]) (len (front ++ [last]) - 1) = last := by
      rw [idx_last_eq _ hnil, List.getLast_concat]
    have hrange : (rangeDown (len (front ++ [last]) - 2) 0).map (idx (front ++ [last])) = front.reverse := by
      have := map_idx_rangeDown (front ++ [last]) 1
      rw [Int.sub_sub] at this
      rw [show len (front ++ [last]) - 2 = len (front ++ [last]) - (1 + ((1 : Nat) : Int)) from rfl, this,
        List.length_append, List.length_singleton, Nat.add_sub_cancel, List.take_left]
    have hsorted := List.pairwise_append.mp ok.sorted
    rw [hidx, hrange, deref_some, List.find?_append]
    by_cases hlt : h < last.Height
    · simp only [hlt, ↓reduceIte]
      rw [findNext_loop h front.reverse (List.pairwise_reverse.mpr hsorted.1)]
      simp [hlt]
    · simp only [hlt, ↓reduceIte]
      have hnone : front.find? (fun c => decide (h < c.Height)) = none := by
        rw [List.find?_eq_none]
        intro x hx
        exact fun hx' => hlt (Int.lt_trans (of_decide_eq_true hx') (hsorted.2.2 x hx last (List.mem_singleton.mpr rfl)))
      simp [hnone, hlt]

/-- the hypothesis on the code-level list is the model's `CpsOk` minus "heights ≥ 1" -/
theorem CpsOkT.sorted_abs {cps : List T_chaincfg_Checkpoint} (ok : CpsOkT cps) :
    (cps.map absCp).Pairwise (fun a b => a.height < b.height) := by
  rw [List.pairwise_map]
  refine ok.sorted.imp_of_mem fun {a b} ha hb hlt => ?_
  exact (Int.toNat_lt_toNat (Int.lt_of_le_of_lt (ok.nonneg a ha) hlt)).mpr hlt

/-- every header names `last`, then the hash of the one before it -/
def chainFrom (hash : Option T_wire_BlockHeader → Atom) (last : Atom) : List (Option T_wire_BlockHeader) → Bool
  | [] => true
  | b :: rest => decide ((deref b).PrevBlock = last) && chainFrom hash (hash b) rest

theorem connected_loop (hash : Option T_wire_BlockHeader → Atom) (hs : List (Option T_wire_BlockHeader))
    (hnz : ∀ h ∈ hs, hash h ≠ 0) (last : Atom) (hl : last ≠ 0) :
    (match areHeadersConnected_loop1 hash 0 hs last with
     | Ctl.ret r => r
     | Ctl.fall _ => true) = chainFrom hash last hs := by
  induction hs generalizing last with
  | nil => rfl
  | cons b rest ih =>
    unfold areHeadersConnected_loop1
    simp only [hl, ↓reduceIte, chainFrom]
    by_cases hp : (deref b).PrevBlock = last
    · simp only [hp, ↓reduceIte, decide_true, Bool.true_and]
      exact ih (fun h hh => hnz h (List.mem_cons_of_mem _ hh)) (hash b) (hnz b (List.mem_cons_self ..))
    · simp [hp]

/-- the chain test is the model's `linked` over the headers' ids, for every table whose parent
relation is the headers' `PrevBlock` -/
theorem chainFrom_eq_linked (t : Tbl) (hash : Option T_wire_BlockHeader → Atom) (a : Option T_wire_BlockHeader)
    (rest : List (Option T_wire_BlockHeader)) (hp : ∀ b ∈ rest, t.parent (hash b) = some (deref b).PrevBlock) :
    chainFrom hash (hash a) rest = linked t ((a :: rest).map hash) := by
  induction rest generalizing a with
  | nil => rfl
  | cons b rest ih =>
    rw [chainFrom, ih b (fun x hx => hp x (List.mem_cons_of_mem _ hx))]
    show _ = ((t.parent (hash b) == some (hash a)) && linked t ((b :: rest).map hash))
    rw [hp b (List.mem_cons_self ..)]
    by_cases h : (deref b).PrevBlock = hash a <;> simp [h]

/-- **`areHeadersConnected` as the code spells it** is the link test, provided no header hashes to
the all-zero hash (the code uses the zero hash as its "not yet set" sentinel) -/
theorem trans_areHeadersConnected (t : Tbl) (hash : Option T_wire_BlockHeader → Atom) (hs : List (Option T_wire_BlockHeader))
    (hnz : ∀ h ∈ hs, hash h ≠ 0) (hp : ∀ b ∈ hs, t.parent (hash b) = some (deref b).PrevBlock) :
    areHeadersConnected hs hash = linked t (hs.map hash) := by
  cases hs with
  | nil => rfl
  | cons a rest =>
    rw [← chainFrom_eq_linked t hash a rest (fun b hb => hp b (List.mem_cons_of_mem _ hb)),
      ← connected_loop hash rest (fun h hh => hnz h (List.mem_cons_of_mem _ hh)) (hash a) (hnz a (List.mem_cons_self ..))]
    rfl

/-- **`BlockHeadersSynced` as the code spells it**, for every answer of the stores and the clock:
the chain tip is read without error, lies above the last checkpoint, is not below the sync peer's
last block, its timestamp is not more than 24 h behind the adjusted time, and - with a sync peer -
the peer's last block is not below the starting height it advertised. -/
theorem trans_blockHeadersSynced (cps : List T_chaincfg_Checkpoint) (noPeer : Bool) (add : Atom → Int → Atom)
    (before : Atom → Atom → Bool) (tip : Option T_wire_BlockHeader × Nat × Bool) (now : Atom) (last start : Int) :
    BlockHeadersSynced cps noPeer add before tip now last start
      = (!tip.2.2 &&
         (match cps.getLast? with
          | some l => decide (l.Height < (tip.2.1 : Int))
          | none => true) &&
         !(!noPeer && decide ((tip.2.1 : Int) < last)) &&
         !(before (deref tip.1).Timestamp (add now (-86400000000000))) &&
         (noPeer || decide (start ≤ last))) := by
  unfold BlockHeadersSynced
  simp only []
  cases he : tip.2.2
  case true => simp
  simp only [↓reduceIte, Bool.not_false, Bool.true_and]
  have hk : BlockHeadersSynced_k1 noPeer add before now last start tip.1 tip.2.1
      = (!(!noPeer && decide ((tip.2.1 : Int) < last)) &&
         !(before (deref tip.1).Timestamp (add now (-86400000000000))) &&
         (noPeer || decide (start ≤ last))) := by
    unfold BlockHeadersSynced_k1
    cases noPeer <;> simp [Bool.and_assoc]
  by_cases hnil : cps = []
  · subst hnil
    simp [hk]
  · have hlen : ¬ len cps = 0 := fun hh => hnil (len_eq_zero.mp hh)
    rw [List.getLast?_eq_some_getLast hnil]
    simp only [hlen, ↓reduceIte, idx_last_eq cps hnil]
    by_cases hlt : (cps.getLast hnil).Height < (tip.2.1 : Int)
    · simp [hlt, hk]
    · simp [hlt]

end Neutrino.BM
