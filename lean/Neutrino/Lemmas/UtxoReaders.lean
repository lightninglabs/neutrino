/-
Readers of one request object (C10): every answer handed out is the answer the object ends with (`answers_final`),
and an answer, once there, never changes; agreement of all readers and "it is the first delivery" follow.
-/
import Neutrino.Model.UtxoReaders
namespace Neutrino.Utxo

theorem runR_append (o : ReqObj) (a b : List REv) :
    runR o (a ++ b) = ((runR (runR o a).1 b).1, (runR o a).2 ++ (runR (runR o a).1 b).2) := by
  induction a generalizing o with
  | nil => simp [runR]
  | cons e es ih => simp [runR, ih, List.append_assoc]

theorem answer_stable (o : ReqObj) (r : Res) (e : REv) (h : o.answer = some r) : (stepR o e).1.answer = some r := by
  obtain ⟨chan, cache⟩ := o
  cases e <;> cases cache <;> cases chan <;> first | exact h | cases h

theorem read_gives_answer (o : ReqObj) (e : REv) (i : Nat) (r : Res) (h : (stepR o e).2 = some (i, r)) :
    o.answer = some r := by
  obtain ⟨chan, cache⟩ := o
  cases e with
  | deliver x => cases h
  | read j => cases cache <;> cases chan <;> cases h <;> rfl

theorem read_completes (o : ReqObj) (r : Res) (i : Nat) (h : o.answer = some r) : (stepR o (.read i)).2 = some (i, r) := by
  obtain ⟨chan, cache⟩ := o
  cases cache <;> cases chan <;> cases h <;> rfl

theorem deliver_answers (o : ReqObj) (r : Res) : ((stepR o (.deliver r)).1.answer).isSome = true := by
  obtain ⟨chan, cache⟩ := o
  cases cache <;> cases chan <;> rfl

theorem answer_stable_run (o : ReqObj) (r : Res) (evs : List REv) (h : o.answer = some r) :
    (runR o evs).1.answer = some r := by
  induction evs generalizing o with
  | nil => exact h
  | cons e es ih => exact ih _ (answer_stable o r e h)

theorem answers_final (o : ReqObj) (evs : List REv) : ∀ p ∈ (runR o evs).2, (runR o evs).1.answer = some p.2 := by
  induction evs generalizing o with
  | nil => exact nofun
  | cons e es ih =>
    intro p hp
    rcases List.mem_append.1 (show p ∈ (stepR o e).2.toList ++ (runR (stepR o e).1 es).2 from hp) with hp | hp
    · have hs : (stepR o e).2 = some p := Option.mem_toList.1 hp
      exact answer_stable_run _ p.2 es (answer_stable o p.2 e (read_gives_answer o e p.1 p.2 hs))
    · exact ih _ p hp

theorem answers_agree (o : ReqObj) (evs : List REv) :
    ∀ p ∈ (runR o evs).2, ∀ q ∈ (runR o evs).2, p.2 = q.2 :=
  fun p hp q hq => Option.some.inj ((answers_final o evs p hp).symm.trans (answers_final o evs q hq))

theorem answers_eq (o : ReqObj) (r : Res) (evs : List REv) (h : o.answer = some r) : ∀ p ∈ (runR o evs).2, p.2 = r :=
  fun p hp => Option.some.inj ((answers_final o evs p hp).symm.trans (answer_stable_run o r evs h))

theorem runR_reads (l : List REv) (h : ∀ e ∈ l, ∃ i, e = REv.read i) : runR {} l = ({}, []) := by
  induction l with
  | nil => rfl
  | cons e es ih =>
    obtain ⟨i, rfl⟩ := h e (List.mem_cons_self ..)
    show (_, [] ++ _) = _
    rw [show runR (stepR {} (.read i)).1 es = ({}, []) from ih fun e he => h e (List.mem_cons_of_mem _ he)]
    rfl

end Neutrino.Utxo
