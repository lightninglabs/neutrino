/-
The registration window: notifications emitted while the handler is inside a
registration (its backlog lookup) wait at the source and are fanned out after
the registration.
-/
import Neutrino.Lemmas.SubsIso
namespace Neutrino.Subs

theorem run_emits (w : List Ntfn) (s : State) :
    run s (w.map Ev.emit) = { s with src := s.src ++ w } := by
  induction w generalizing s with
  | nil => exact State.ext' rfl (by simp [run]) rfl rfl
  | cons n rest ih =>
    simp only [List.map_cons, run, step]
    rw [ih]
    exact State.ext' rfl (by simp) rfl rfl

theorem step_fanout_live (s : State) (n : Ntfn) (rest : List Ntfn)
    (hs : s.stopped = false) (hsrc : s.src = n :: rest) :
    (step s .handlerFanout).1 =
      { s with subs := mapAll s.subs (Sub.push n), src := rest, fanned := s.fanned ++ [n] } := by
  simp [step, hs, hsrc]

/-- the handler takes `w` from the source, one fan-out at a time -/
theorem run_fanouts (w : List Ntfn) (s : State) (rest : List Ntfn)
    (hs : s.stopped = false) (hsrc : s.src = w ++ rest) (id : Nat) (x : Sub)
    (hx : s.subs id = some x) (hl : x.live = true) :
    (run s (w.map fun _ => Ev.handlerFanout)).fanned = s.fanned ++ w ∧
    ∃ y, (run s (w.map fun _ => Ev.handlerFanout)).subs id = some y ∧ y.live = true ∧
      y.regAt = x.regAt ∧ y.backlog = x.backlog := by
  induction w generalizing s x with
  | nil => exact ⟨by simp [run], x, hx, hl, rfl, rfl⟩
  | cons n w ih =>
    simp only [List.map_cons, run]
    rw [step_fanout_live s n (w ++ rest) hs (by simpa using hsrc)]
    have hx' : (mapAll s.subs (Sub.push n)) id = some (x.push n) := by simp [mapAll, hx]
    have hpush : (x.push n).live = true ∧ (x.push n).regAt = x.regAt ∧ (x.push n).backlog = x.backlog := by
      simp [Sub.push, hl]
    obtain ⟨h3, y, hy, hyl, hyr, hyb⟩ :=
      ih { s with subs := mapAll s.subs (Sub.push n), src := w ++ rest, fanned := s.fanned ++ [n] }
        hs rfl (x.push n) hx' hpush.1
    exact ⟨by rw [h3]; simp, y, hy, hyl, hyr.trans hpush.2.1, hyb.trans hpush.2.2⟩

end Neutrino.Subs
