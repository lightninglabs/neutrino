/- C09, the walk and the retry queue: every transition's callbacks continue the caller's walk of the block tree from the
rescan's current block to its new one (`Walks`), provided the catch-up arm reads a child of the current block (`StepOk`);
the retry loop delivers a prefix of its queue in order. -/
import Neutrino.Spec.Rescan
import Neutrino.Lemmas.RescanEqns
namespace Neutrino.Rescan

/-- the caller's current block after a list of callbacks (`none`: the walk broke) -/
def walkEnd (W : World) : Nat → List Cb → Option Nat
  | cur, [] => some cur
  | cur, c :: cs =>
    match walkStep W cur c with
    | none => none
    | some cur' => walkEnd W cur' cs

theorem walkFrom_append (W : World) (a b : List Cb) (cur c : Nat) (h : walkEnd W cur a = some c) :
    walkFrom W cur (a ++ b) = walkFrom W c b := by
  induction a generalizing cur with
  | nil => cases h; rfl
  | cons x xs ih =>
    simp only [List.cons_append, walkFrom, walkEnd] at h ⊢
    split at h
    · cases h
    · next c' hx => rw [hx]; exact ih c' h

theorem walkEnd_append (W : World) (a b : List Cb) (cur c : Nat) (h : walkEnd W cur a = some c) :
    walkEnd W cur (a ++ b) = walkEnd W c b := by
  induction a generalizing cur with
  | nil => cases h; rfl
  | cons x xs ih =>
    simp only [List.cons_append, walkEnd] at h ⊢
    split at h
    · cases h
    · next c' _ => exact ih c' h

/-- The callbacks `r.2` of a transition from `s` to `r.1` continue the caller's walk from the rescan's current block and
end at its new current block, unless the rescan has ended. -/
def Walks (W : World) (s : St) (r : St × List Cb) : Prop :=
  ∃ c, walkEnd W s.cur r.2 = some c ∧ (r.1.dead = true ∨ c = r.1.cur)

theorem Walks.silent {W : World} {s s' : St} (h : s'.cur = s.cur) : Walks W s (s', []) := ⟨s.cur, rfl, .inr h.symm⟩

theorem Walks.exit {W : World} {s s' : St} (h : s'.dead = true) : Walks W s (s', [.exit]) := ⟨s.cur, rfl, .inl h⟩

theorem Walks.conn {W : World} {s s' : St} {b h : Nat} {txs : List Nat} (hp : W.prev b = s.cur) (hc : s'.cur = b) :
    Walks W s (s', [.conn h b txs]) :=
  ⟨b, by simp only [walkEnd, walkStep, hp, beq_self_eq_true, ↓reduceIte], .inr hc.symm⟩

theorem step_dead (W : World) (s : St) (e : Ev) (h : s.dead = true) :
    (step W s e).2 = [] ∧ (step W s e).1.dead = true := by
  cases e <;> simp only [step, h, Bool.true_or, ↓reduceIte, and_self]

theorem run_dead (W : World) (evs : List Ev) (s : St) (h : s.dead = true) : (run W s evs).2 = [] := by
  induction evs generalizing s with
  | nil => rfl
  | cons e es ih =>
    have hd := step_dead W s e h
    simp only [run, hd.1, List.nil_append]
    exact ih _ hd.2

def connIds : List Cb → List Nat
  | [] => []
  | .conn _ id _ :: r => id :: connIds r
  | _ :: r => connIds r

theorem connIds_append (a b : List Cb) : connIds (a ++ b) = connIds a ++ connIds b := by
  induction a with
  | nil => rfl
  | cons x xs ih => cases x <;> simp only [List.cons_append, connIds, ih]

theorem connIds_quiet (l : List Cb) (h : ∀ x, x ∈ l → quiet x = true) : connIds l = [] := by
  induction l with
  | nil => rfl
  | cons x xs ih =>
    have hx := h x List.mem_cons_self
    cases x
    case conn => cases hx
    all_goals exact ih fun y hy => h y (List.mem_cons_of_mem _ hy)

theorem retryLoop_spec (W : World) (n : Nat) (s : St) (hn : s.queue.length ≤ n) :
    (∃ k, connIds (retryLoop W n s).2 = s.queue.take k ∧ (retryLoop W n s).1.queue = s.queue.drop k) ∧
    walkEnd W s.cur (retryLoop W n s).2 = some (retryLoop W n s).1.cur := by
  induction n generalizing s with
  | zero => exact ⟨⟨0, rfl, rfl⟩, rfl⟩
  | succ n ih =>
    cases hq : s.queue with
    | nil => simp only [retryLoop, hq]; exact ⟨⟨0, rfl, rfl⟩, rfl⟩
    | cons b rest =>
      rw [hq] at hn
      simp only [retryLoop, hq]
      obtain ⟨sc, fS, fpS, bS, -, ⟨hr, rfl | rfl, h⟩ | ⟨hp, -, txs, w, h, -⟩⟩ := handleConnected_cases W s b <;> rw [h]
      · exact ⟨⟨0, rfl, hq⟩, rfl⟩
      · exact ⟨⟨0, rfl, hq⟩, rfl⟩
      · obtain ⟨⟨k, hk, hd⟩, hw⟩ := ih
          { s with scanning := sc, fS := fS, fpS := fpS, bS := bS, cur := b, curH := s.curH + 1, w := w, queue := rest }
          (Nat.le_of_succ_le_succ hn)
        refine ⟨⟨k + 1, ?_, hd⟩, ?_⟩
        · simp only [List.cons_append, List.nil_append, connIds, hk, List.take_succ_cons]
        · simp only [List.cons_append, List.nil_append, walkEnd, walkStep, hp, beq_self_eq_true, ↓reduceIte]
          exact hw

theorem qRemove_prefix (q : List Nat) (b : Nat) : ∃ k, qRemove q b = q.take k := by
  induction q with
  | nil => exact ⟨0, rfl⟩
  | cons x r ih =>
    simp only [qRemove]
    split
    · exact ⟨0, rfl⟩
    · obtain ⟨k, hk⟩ := ih
      exact ⟨k + 1, by rw [hk, List.take_succ_cons]⟩

theorem qRemove_not_mem (q : List Nat) (b : Nat) (h : b ∉ q) : qRemove q b = q := by
  induction q with
  | nil => rfl
  | cons x r ih =>
    simp only [List.mem_cons, not_or] at h
    rw [qRemove, if_neg (by simpa using Ne.symm h.1), ih h.2]

/-- a rewind that announces its disconnects walks back along `prev`; when the parent has left the header store the
callback for the current block is already out and the rescan is not moved -/
theorem rewindLoop_walk (W : World) (r : Nat) (n : Nat) (s : St) (rew : Bool) :
    ∃ c, walkEnd W s.cur (rewindLoop W r false n s rew).2.1 = some c ∧
      ((rewindLoop W r false n s rew).2.2.2 = true ∨ c = (rewindLoop W r false n s rew).1.cur) := by
  have hdisc : ∀ h cur l, walkEnd W cur (Cb.disc h cur :: l) = walkEnd W (W.prev cur) l := fun h cur l => by
    simp only [walkEnd, walkStep, beq_self_eq_true, ↓reduceIte]
  induction n generalizing s rew with
  | zero => exact ⟨s.cur, rfl, .inr rfl⟩
  | succ n ih =>
    by_cases h : r < s.curH
    case neg => rw [rewindLoop_done (Nat.not_lt.mp h)]; exact ⟨s.cur, rfl, .inr rfl⟩
    cases hp : s.chain.contains (W.prev s.cur)
    case false => rw [rewindLoop_lost h hp]; exact ⟨W.prev s.cur, hdisc _ _ [], .inl rfl⟩
    rw [rewindLoop_back h hp]
    obtain ⟨c, hw, hc⟩ := ih { s with cur := W.prev s.cur, curH := W.height (W.prev s.cur) } true
    exact ⟨c, (hdisc _ _ _).trans hw, hc⟩

theorem applyUpdate_walk (W : World) (s : St) (u : Upd) (hq : u.quiet = false) :
    ∃ c, walkEnd W s.cur (applyUpdate W s u).2.1 = some c ∧
      ((applyUpdate W s u).2.2.2 = true ∨ c = (applyUpdate W s u).1.cur) := by
  unfold applyUpdate
  split
  · exact ⟨s.cur, rfl, .inr rfl⟩
  · rw [hq]; exact rewindLoop_walk W u.rewind s.curH { s with w := addWatch s.w u } false

theorem rewindLoop_queue (W : World) (r : Nat) (quiet : Bool) (n : Nat) (s : St) (rw : Bool) :
    (rewindLoop W r quiet n s rw).1.queue = s.queue := by
  obtain ⟨_, _, h, _⟩ := rewindLoop_frame W r quiet n s rw
  rw [h]

/-- one catch-up iteration continues the walk PROVIDED the block it reads at the next height is a child of the current one -/
theorem catchUp_walk (W : World) (s : St) (hg : ∀ b, s.chain[s.curH + 1]? = some b → W.prev b = s.cur) :
    Walks W s (catchUp W s) := by
  rcases catchUp_cases W s with h | h | ⟨b, hb, h⟩ <;> rw [h]
  · exact .exit rfl
  · exact .silent rfl
  · obtain ⟨fS, fpS, bS, h | ⟨txs, w, h, -⟩⟩ := notifyBlock_cases W
      { s with cur := b, curH := s.curH + 1, scanning := s.scanning || W.late b }
    · rw [h]; exact .exit rfl
    · rw [h]; exact .conn (hg b hb) rfl

/-- What the walk needs of an event arriving in state `s`.  `step`: the block the catch-up arm is about to read at the
next height is a child of the rescan's current block (what a reorganisation reaching at/below the current block while the
rescan was not told breaks).  The other two are well-formedness of the inputs: a `Disconnected` names the parent as the
new tip (blockmanager does), and the caller did not ask for silent rewinds (`DisableDisconnectedNtfns`, which by design
skips callbacks). -/
def StepOk (W : World) (s : St) : Ev → Prop
  | .step => s.dead = false → s.current = false → ∀ b, s.chain[s.curH + 1]? = some b → W.prev b = s.cur
  | .disconnected b tip => tip = W.prev b
  | .update u => u.quiet = false
  | _ => True

theorem step_walk (W : World) (s : St) (e : Ev) (hg : StepOk W s e) : Walks W s (step W s e) := by
  cases e with
  | grow | reorg | setF | setB | setFp => exact .silent rfl
  | connected b =>
    cases h : s.dead || !s.current
    case true => rw [step_connected_idle h]; exact .silent rfl
    cases hq : s.queue.isEmpty
    case false => rw [step_connected_stash h hq]; exact .silent rfl
    rw [step_connected_handle h hq]
    obtain ⟨sc, fS, fpS, bS, -, ⟨hr, rfl | rfl, h⟩ | ⟨hp, -, txs, w, h, -⟩⟩ := handleConnected_cases W s b <;> rw [h]
    · exact .silent rfl
    · exact .silent rfl
    · exact .conn hp rfl
  | disconnected b tip =>
    cases h : s.dead || !s.current
    case true => rw [step_disconnected_idle h]; exact .silent rfl
    by_cases hb : b = s.cur
    case neg => rw [step_disconnected_other h hb]; exact .silent rfl
    subst hb
    rw [step_disconnected_cur h]
    exact ⟨tip, by simp only [walkEnd, walkStep, beq_self_eq_true, ↓reduceIte, show tip = W.prev s.cur from hg], .inr rfl⟩
  | tick =>
    cases h : s.dead || !s.current || !s.timer
    case true => rw [step_tick_idle h]; exact .silent rfl
    rw [step_tick_retry h]
    exact ⟨_, (retryLoop_spec W s.queue.length { s with timer := false } (Nat.le_refl _)).2, .inr rfl⟩
  | update u =>
    cases hd : s.dead
    case true => rw [step_update_dead hd]; exact .silent rfl
    obtain ⟨c, hw, hc⟩ := applyUpdate_walk W s u hg
    rcases ha : applyUpdate W s u with ⟨s', cbs, rew, _ | _⟩ <;> rw [ha] at hw hc
    · obtain ⟨_, h⟩ := step_update_ok hd ha
      rw [h]
      exact ⟨c, hw, .inr (hc.resolve_left nofun)⟩
    · rw [step_update_failed hd ha]
      exact ⟨c, (walkEnd_append W cbs [.exit] _ c hw).trans rfl, .inl rfl⟩
  | step =>
    cases h : s.dead || s.current
    case true => rw [step_step_idle h]; exact .silent rfl
    rw [step_step_catchUp h]
    rw [Bool.or_eq_false_iff] at h
    exact catchUp_walk W s (hg h.1 h.2)

/-- every event of the history arrives well-formed -/
def RunOk (W : World) : St → List Ev → Prop
  | _, [] => True
  | s, e :: es => StepOk W s e ∧ RunOk W (step W s e).1 es

theorem walk_run (W : World) (evs : List Ev) (s : St) (c : Nat) (hc : s.dead = true ∨ c = s.cur)
    (hg : RunOk W s evs) : walkFrom W c (run W s evs).2 = true := by
  induction evs generalizing s c with
  | nil => rfl
  | cons e es ih =>
    cases hd : s.dead
    case true => rw [run_dead W (e :: es) s hd]; rfl
    obtain ⟨c', hw, hc'⟩ := step_walk W s e hg.1
    rw [hc.resolve_left (by rw [hd]; nofun)]
    simp only [run]
    rw [walkFrom_append W _ _ _ c' hw]
    exact ih _ c' hc' hg.2

end Neutrino.Rescan
