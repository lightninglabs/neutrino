/-
Lemmas for C12: the dispatcher's `step` arm by arm and its result arm case by
case, so that no proof has to unfold either, and what a single result does to
the ranking, the hard deadline, the queue and the verdicts put out.
-/
import Neutrino.Model.Dispatcher
namespace Neutrino.Disp

theorem lookup_filter_ne (q : List (Nat × Nat)) {k k' : Nat} (h : k' ≠ k) :
    (q.filter (fun x => x.1 != k)).lookup k' = q.lookup k' := by
  induction q with
  | nil => rfl
  | cons x xs ih =>
    rw [List.filter_cons, List.lookup_cons]
    by_cases hx : x.1 = k
    · rw [if_neg (fun c => bne_iff_ne.mp c hx), ih, beq_false_of_ne (hx ▸ h)]
    · rw [if_pos (bne_iff_ne.mpr hx), List.lookup_cons, ih]

theorem perm_cons_filter {α} (f : α → Nat) {a : α} {l : List α} (hn : (l.map f).Nodup) (h : a ∈ l) :
    l.Perm (a :: l.filter (fun x => f x != f a)) := by
  induction l with
  | nil => cases h
  | cons x xs ih =>
    have hn := List.nodup_cons.mp hn
    have hne {y} (hy : y ∈ xs) : f y ≠ f x := fun e => hn.1 (e ▸ List.mem_map_of_mem hy)
    rw [List.filter_cons]
    cases List.mem_cons.mp h with
    | inl hax =>
      rw [hax, if_neg (fun c => bne_iff_ne.mp c rfl), List.filter_eq_self.mpr fun y hy => bne_iff_ne.mpr (hne hy)]
    | inr hm =>
      rw [if_pos (bne_iff_ne.mpr (hne hm).symm)]
      exact ((ih hn.2 hm).cons x).trans (.swap ..)

theorem perm_swap_assoc {α} (a h l : List α) : (a ++ (h ++ l)).Perm ((h ++ a) ++ l) :=
  (List.perm_append_comm_assoc ..).trans (.of_eq (List.append_assoc ..).symm)

theorem insertJob_perm (j : Job) (w : List Job) : (insertJob j w).Perm (j :: w) := by
  induction w with
  | nil => exact .refl _
  | cons x xs ih =>
    unfold insertJob
    split
    · exact .refl _
    · exact (ih.cons x).trans (.swap ..)

theorem pushAll_perm (js w : List Job) : (pushAll js w).Perm (js ++ w) := by
  induction js generalizing w with
  | nil => exact .refl _
  | cons x xs ih =>
    exact (ih (insertJob x w)).trans (((insertJob_perm x w).append_left xs).trans List.perm_middle)

theorem findB_some {bs : List Batch} {b : Nat} {bp : Batch} (h : findB bs b = some bp) :
    bp ∈ bs ∧ bp.id = b :=
  ⟨List.mem_of_find?_eq_some h, by simpa using List.find?_some h⟩

theorem findB_none {bs : List Batch} {b : Nat} (h : findB bs b = none) : ∀ bp ∈ bs, bp.id ≠ b :=
  fun bp hbp => by simpa using List.find?_eq_none.mp h bp hbp

theorem mem_delB {bs : List Batch} {b : Nat} {bp : Batch} : bp ∈ delB bs b ↔ bp ∈ bs ∧ bp.id ≠ b := by
  simp only [delB, List.mem_filter, bne_iff_ne]

theorem findB_delB_self (bs : List Batch) (b : Nat) : findB (delB bs b) b = none :=
  List.find?_eq_none.mpr fun _ hx => by simpa using (mem_delB.mp hx).2

theorem findW_none {ws : List Worker} {p : Nat} (h : findW ws p = none) : ∀ w ∈ ws, w.addr ≠ p :=
  fun w hw => by simpa using List.find?_eq_none.mp h w hw

theorem findW_addr {ws : List Worker} {p : Nat} {w : Worker} (h : findW ws p = some w) : w.addr = p := by
  simpa using List.find?_some h

theorem findW_setW_self (ws : List Worker) (w : Worker) : findW (setW ws w) w.addr = some w := by
  rw [findW, setW, List.find?_cons, beq_self_eq_true]

theorem findW_setW_ne (ws : List Worker) (w : Worker) {q : Nat} (h : q ≠ w.addr) :
    findW (setW ws w) q = findW ws q := by
  rw [findW, setW, List.find?_cons, beq_false_of_ne (Ne.symm h), List.find?_filter]
  refine congrArg (List.find? · ws) (funext fun x => ?_)
  by_cases hx : x.addr = q
  · rw [hx, beq_self_eq_true, bne_iff_ne.mpr h]; rfl
  · rw [beq_false_of_ne hx]; exact decide_eq_false fun c => nomatch c.2

/-- a property of an `if … then … else …` outcome, branch by branch (`split` is slow on the large states below) -/
theorem if_elim {c : Prop} [Decidable c] {x y : State × List Out} (P : State × List Out → Prop)
    (hx : c → P x) (hy : ¬c → P y) : P (if c then x else y) := iteInduction hx hy

/-- every step is ignored or is one arm of the dispatcher loop, taken in a state that enables it -/
theorem step_cases {P : Ev → State × List Out → Prop} (s : State) (e : Ev)
    (ignored : P e (s, [.ignored]))
    (late : s.quit = true → ∀ n a b c d, P (.newBatch n a b c d) (stepLate s n))
    (quit : s.quit = false → P .quit (stepQuit s))
    (exit : s.quit = false → ∀ p, P (.exit p) (stepExit s p))
    (elapse : s.quit = false → ∀ b, P (.elapse b) ({ s with batches := setHard s.batches b }, []))
    (accept : s.quit = false → ∀ p, P (.accept p) (stepAccept s p))
    (newBatch : s.quit = false → offering s = false → ∀ n a b c d,
      P (.newBatch n a b c d) (stepNewBatch s n a b c d))
    (peer : s.quit = false → offering s = false → ∀ p, P (.peer p) (stepPeer s p))
    (result : s.quit = false → offering s = false → ∀ p err, P (.result p err) (stepResult s p err))
    (wake : s.quit = false → offering s = false → ∀ b g, P (.wake b g) (stepWake s b g)) :
    P e (step s e) := by
  unfold step
  by_cases hq : s.quit = true
  · rw [if_pos hq]
    cases e with
    | newBatch n a b c d => exact late hq n a b c d
    | _ => exact ignored
  · rw [if_neg hq]
    have hq := (Bool.not_eq_true _).mp hq
    have off {e x} (hi : P e (s, [.ignored])) (hx : offering s = false → P e x) :
        P e (if offering s = true then (s, [.ignored]) else x) := by
      split
      · exact hi
      · exact hx ((Bool.not_eq_true _).mp ‹_›)
    cases e with
    | quit => exact quit hq
    | exit p => exact exit hq p
    | elapse b => exact elapse hq b
    | accept p => exact accept hq p
    | newBatch n a b c d => exact off ignored (newBatch hq · ..)
    | peer p => exact off ignored (peer hq · p)
    | result p err => exact off ignored (result hq · p err)
    | wake b g => exact off ignored (wake hq · b g)

section
variable {s : State}

/-- after `quit` only `Query` still acts: it writes the shutdown verdict itself -/
theorem step_of_quit (hq : s.quit = true) (e : Ev) :
    step s e = match e with
      | .newBatch n _ _ _ _ => stepLate s n
      | _ => (s, [.ignored]) := by
  unfold step; rw [if_pos hq]
  cases e <;> rfl

theorem step_accept (hq : s.quit = false) (p : Nat) : step s (.accept p) = stepAccept s p := by
  unfold step; simp only [hq, Bool.false_eq_true, ↓reduceIte]

theorem step_exit (hq : s.quit = false) (p : Nat) : step s (.exit p) = stepExit s p := by
  unfold step; simp only [hq, Bool.false_eq_true, ↓reduceIte]

/-- a submission that is not held up by an offer: taken by the dispatcher, or answered by `Query` after quit -/
theorem step_newBatch (h : offering s = false ∨ s.quit = true) (n : Nat) (a : Bool) (b : Nat) (c d : Bool) :
    step s (.newBatch n a b c d) = if s.quit then stepLate s n else stepNewBatch s n a b c d := by
  cases hq : s.quit with
  | true => exact step_of_quit hq _
  | false => unfold step; simp only [hq, h.resolve_right (hq ▸ Bool.false_ne_true), Bool.false_eq_true, ↓reduceIte]

theorem step_peer (hq : s.quit = false) (ho : offering s = false) (p : Nat) :
    step s (.peer p) = stepPeer s p := by
  unfold step; simp only [hq, ho, Bool.false_eq_true, ↓reduceIte]

theorem step_result (hq : s.quit = false) (ho : offering s = false) (p : Nat) (e : Err) :
    step s (.result p e) = stepResult s p e := by
  unfold step; simp only [hq, ho, Bool.false_eq_true, ↓reduceIte]

theorem step_wake (s : State) (b g : Nat) :
    step s (.wake b g) = if s.quit || offering s then (s, [.ignored]) else stepWake s b g := by
  unfold step; cases s.quit <;> cases offering s <;> rfl

end

theorem step_quit_stays (s : State) (e : Ev) (h : s.quit = true) : (step s e).1.quit = true := by
  rw [step_of_quit h]; split <;> exact h

theorem run_quit_stays (s : State) (es : List Ev) (h : s.quit = true) : (run s es).quit = true := by
  induction es generalizing s with
  | nil => exact h
  | cons e es ih => exact ih _ (step_quit_stays s e h)

theorem run_quit_of_mem (s : State) (es : List Ev) (h : Ev.quit ∈ es) : (run s es).quit = true := by
  induction es generalizing s with
  | nil => exact absurd h List.not_mem_nil
  | cons e es ih =>
    cases List.mem_cons.mp h with
    | inr he => exact ih _ he
    | inl he =>
      refine run_quit_stays _ es ?_
      rw [← he]
      cases hq : s.quit with
      | true => exact step_quit_stays s _ hq
      | false => unfold step; rw [hq]; rfl

theorem stepExit_cases (P : State × List Out → Prop) {s : State} {p : Nat}
    (ignored : findW s.workers p = none → P (s, [.ignored]))
    (exit : ∀ w, findW s.workers p = some w →
      P ({ s with workers := setW s.workers { w with exited := true } }, [])) : P (stepExit s p) := by
  unfold stepExit
  split
  · exact ignored ‹_›
  · exact exit _ ‹_›

theorem stepAccept_cases (P : State × List Out → Prop) {s : State} {p : Nat} (ignored : P (s, [.ignored]))
    (handOut : ∀ job rest, s.work = job :: rest → bestFree s p = true →
      P ({ s with work := rest, workers := setW s.workers ⟨p, some job, false⟩ },
         [.dispatched p job.idx job.tries job.timeout])) : P (stepAccept s p) := by
  unfold stepAccept
  split
  · exact ignored
  · exact if_elim P (handOut _ _ ‹_›) fun _ => ignored

theorem stepWake_cases (P : State × List Out → Prop) {s : State} {b g : Nat} (stale : P (s, []))
    (fires : ∀ bp, findB s.batches b = some bp → g = bp.gen →
      P (emit s b (.res .timeout), [.verdict b (.res .timeout)])) : P (stepWake s b g) := by
  unfold stepWake
  split
  · exact stale
  · exact if_elim P (fun _ => stale) fun hg => fires _ ‹_› (Classical.not_not.mp (mt bne_iff_ne.mpr hg))

theorem stepWake_stale {s : State} {b g : Nat} (h : ∀ bp, findB s.batches b = some bp → g ≠ bp.gen) :
    stepWake s b g = (s, []) :=
  stepWake_cases (fun r => r = (s, [])) rfl fun bp hf hg => absurd hg (h bp hf)

theorem bestFree_iff {s : State} {p : Nat} :
    bestFree s p = true ↔
      (∃ w ∈ freeLive s, w.addr = p) ∧ ∀ q ∈ freeLive s, scoreOf s.rank p ≤ scoreOf s.rank q.addr := by
  simp only [bestFree, Bool.and_eq_true, List.any_eq_true, List.all_eq_true, beq_iff_eq, decide_eq_true_eq]

theorem stepAccept_cons {s : State} {job : Job} {rest : List Job} (hw : s.work = job :: rest) (p : Nat) :
    stepAccept s p =
      if bestFree s p then
        ({ s with work := rest, workers := setW s.workers ⟨p, some job, false⟩ },
         [.dispatched p job.idx job.tries job.timeout])
      else (s, [.ignored]) := by
  rw [stepAccept, hw]

/-- the result arm after `r.activeJob = nil; delete(currentQueries, job.index)` -/
def taken (s : State) (w : Worker) (job : Job) : State :=
  { s with workers := setW s.workers { w with active := none },
           queries := s.queries.filter (fun x => x.1 != job.idx) }

/-- a failed job as it goes back onto the heap: one more try (unless the batch retries for ever), a doubled timeout
after a timeout -/
def retry (bp : Batch) (job : Job) (e : Err) : Job :=
  { job with tries := if bp.noRetryMax then job.tries else job.tries + 1,
             timeout := if e = .timeout then
                          (if job.timeout * 2 > Gen.Dispatcher.maxQueryTimeoutSec
                           then Gen.Dispatcher.maxQueryTimeoutSec else job.timeout * 2)
                        else job.timeout }

theorem stepResult_unknown {s : State} {p : Nat} (hw : findW s.workers p = none) (e : Err) :
    stepResult s p e = (s, [.ignored]) := by
  simp only [stepResult, hw]

theorem stepResult_idle {s : State} {p : Nat} {w : Worker} (hw : findW s.workers p = some w)
    (ha : w.active = none) (e : Err) : stepResult s p e = (s, [.ignored]) := by
  simp only [stepResult, hw, ha]

section
variable {s : State} {p bn : Nat} {w : Worker} {job : Job} (hw : findW s.workers p = some w)
  (ha : w.active = some job) (hbn : (s.queries.lookup job.idx).getD 0 = bn)
include hw ha hbn

theorem stepResult_ended (hf : findB s.batches bn = none) (e : Err) :
    stepResult s p e = (taken s w job, [.resultFor job.idx]) := by
  subst hbn
  simp only [stepResult, hw, ha, hf, taken]

variable {bp : Batch} (hf : findB s.batches bn = some bp)
include hf

theorem stepResult_canceled :
    stepResult s p .canceled =
      (emit (taken s w job) bn (.res .canceled), [.resultFor job.idx, .verdict bn (.res .canceled)]) := by
  subst hbn
  simp only [stepResult, hw, ha, hf, taken]

theorem stepResult_ok :
    stepResult s p .ok =
      if bp.rem == 1 then
        (emit { taken s w job with rank := reward s.rank p, okd := job.idx :: s.okd,
                                   batches := setRem s.batches bn (bp.rem - 1) } bn (.res .ok),
         [.resultFor job.idx, .verdict bn (.res .ok)])
      else hardCheck { taken s w job with rank := reward s.rank p, okd := job.idx :: s.okd,
                                          batches := setRem s.batches bn (bp.rem - 1) } bn bp true
             [.resultFor job.idx] := by
  subst hbn
  simp only [stepResult, hw, ha, hf, taken]

/-- timeout, disconnect, any other failure: the retry cap, else back onto the heap under the same index -/
theorem stepResult_failed {e : Err} (he : e ≠ .ok) (he' : e ≠ .canceled) :
    stepResult s p e =
      if !bp.noRetryMax && decide ((retry bp job e).tries ≥ bp.maxRetries) then
        (emit { taken s w job with rank := if e = .disconnected then resetRank s.rank p else punish s.rank p }
           bn (.res e), [.resultFor job.idx, .verdict bn (.res e), .maxTries p])
      else hardCheck
        { taken s w job with
            rank := if e = .disconnected then resetRank s.rank p else punish s.rank p,
            work := insertJob (retry bp job e) s.work,
            queries := (job.idx, bn) :: s.queries.filter (fun x => x.1 != job.idx) } bn bp false
        [.resultFor job.idx] := by
  subst hbn
  simp only [stepResult, hw, ha, hf]
  cases e with
  | ok => exact absurd rfl he
  | canceled => exact absurd rfl he'
  | _ => rfl

end

theorem hardCheck_cases (P : State × List Out → Prop) {s : State} {bn : Nat} {bp : Batch} {pr : Bool}
    {outs : List Out}
    (passed : bp.hardPassed = true → P (emit s bn (.res .timeout), outs ++ [.verdict bn (.res .timeout)]))
    (rearm : P ({ s with batches := bumpGen s.batches bn }, outs)) (same : P (s, outs)) :
    P (hardCheck s bn bp pr outs) :=
  if_elim P passed fun _ => if_elim P (fun _ => rearm) fun _ => same

theorem hardCheck_keeps (s : State) (bn : Nat) (bp : Batch) (pr : Bool) (outs : List Out) :
    (hardCheck s bn bp pr outs).1.rank = s.rank ∧ (hardCheck s bn bp pr outs).1.work = s.work ∧
      (hardCheck s bn bp pr outs).1.queries = s.queries :=
  hardCheck_cases (fun r => r.1.rank = s.rank ∧ r.1.work = s.work ∧ r.1.queries = s.queries)
    (fun _ => ⟨rfl, rfl, rfl⟩) ⟨rfl, rfl, rfl⟩ ⟨rfl, rfl, rfl⟩

theorem rank_after_result {s : State} {p : Nat} {w : Worker} {job : Job} {bp : Batch}
    (hw : findW s.workers p = some w) (ha : w.active = some job)
    (hf : findB s.batches ((s.queries.lookup job.idx).getD 0) = some bp) (e : Err) :
    (stepResult s p e).1.rank =
      if e = .ok then reward s.rank p else if e = .canceled then s.rank
      else if e = .disconnected then resetRank s.rank p else punish s.rank p := by
  by_cases he : e = .ok
  · rw [he, stepResult_ok hw ha rfl hf]
    exact if_elim (fun r => r.1.rank = _) (fun _ => rfl) (fun _ => (hardCheck_keeps ..).1)
  by_cases he' : e = .canceled
  · rw [he', stepResult_canceled hw ha rfl hf]; rfl
  · rw [stepResult_failed hw ha rfl hf he he', if_neg he, if_neg he']
    exact if_elim (fun r => r.1.rank = _) (fun _ => rfl) (fun _ => (hardCheck_keeps ..).1)

/-- batch `b` is gone from `currentBatches` and its result channel holds a verdict -/
def Ended (b : Nat) (s : State) : Prop := findB s.batches b = none ∧ ∃ v, (b, v) ∈ s.verdicts

theorem emit_ended (s : State) (b : Nat) (v : Verdict) : Ended b (emit s b v) :=
  ⟨findB_delB_self _ _, v, List.mem_append_right _ (List.mem_singleton.mpr rfl)⟩

theorem hardCheck_ended (s : State) (bn : Nat) {bp : Batch} (hh : bp.hardPassed = true) (pr : Bool)
    (outs : List Out) : Ended bn (hardCheck s bn bp pr outs).1 := by
  unfold hardCheck
  rw [if_pos hh]
  exact emit_ended s bn _

theorem result_ends_overdue_batch {s : State} {p : Nat} {w : Worker} {job : Job} {bp : Batch}
    (hw : findW s.workers p = some w) (ha : w.active = some job)
    (hf : findB s.batches ((s.queries.lookup job.idx).getD 0) = some bp) (hh : bp.hardPassed = true) (e : Err) :
    Ended ((s.queries.lookup job.idx).getD 0) (stepResult s p e).1 := by
  by_cases he : e = .ok
  · rw [he, stepResult_ok hw ha rfl hf]
    exact if_elim (fun r => Ended _ r.1) (fun _ => emit_ended ..) (fun _ => hardCheck_ended _ _ hh ..)
  by_cases he' : e = .canceled
  · rw [he', stepResult_canceled hw ha rfl hf]; exact emit_ended ..
  · rw [stepResult_failed hw ha rfl hf he he']
    exact if_elim (fun r => Ended _ r.1) (fun _ => emit_ended ..) (fun _ => hardCheck_ended _ _ hh ..)

theorem reissue_core {s : State} {p : Nat} {e : Err} {w : Worker} {job : Job}
    (hw : findW s.workers p = some w) (ha : w.active = some job) (he : e ≠ .ok) (he' : e ≠ .canceled)
    (hl : (findB (stepResult s p e).1.batches ((s.queries.lookup job.idx).getD 0)).isSome = true) :
    ∃ j' ∈ (stepResult s p e).1.work, j'.idx = job.idx ∧ j'.batch = job.batch ∧
      (stepResult s p e).1.queries.lookup job.idx = some ((s.queries.lookup job.idx).getD 0) := by
  revert hl
  cases hf : findB s.batches ((s.queries.lookup job.idx).getD 0) with
  | none => rw [stepResult_ended hw ha rfl hf]; intro hl; exact absurd (hf ▸ hl) (by decide)
  | some bp =>
    rw [stepResult_failed hw ha rfl hf he he']
    refine if_elim (fun r => (findB r.1.batches _).isSome = true → ∃ j' ∈ r.1.work, j'.idx = job.idx ∧
      j'.batch = job.batch ∧ r.1.queries.lookup job.idx = some _) (fun _ hl => ?_) (fun _ _ => ?_)
    · exact absurd (findB_delB_self .. ▸ hl) (by decide)
    · rw [(hardCheck_keeps ..).2.1, (hardCheck_keeps ..).2.2]
      exact ⟨_, (insertJob_perm ..).mem_iff.mpr List.mem_cons_self, rfl, rfl, by rw [List.lookup_cons, beq_self_eq_true]⟩

def Out.isNil : Out → Bool
  | .verdict _ (.res .ok) => true
  | _ => false

/-- `nomatch nil_of_mem h` refutes `h : .verdict b (.res .ok) ∈ outs` for the `outs` of an arm that puts out no nil
verdict: `any Out.isNil` evaluates to `false` on such a list whatever the numbers in it. -/
theorem nil_of_mem {outs : List Out} {b : Nat} (h : Out.verdict b (.res .ok) ∈ outs) :
    outs.any Out.isNil = true := List.any_eq_true.mpr ⟨_, h, rfl⟩

theorem hardCheck_no_ok {s : State} {bn : Nat} {bp : Batch} {pr : Bool} {outs : List Out} {b : Nat}
    (h : Out.verdict b (.res .ok) ∈ (hardCheck s bn bp pr outs).2) : Out.verdict b (.res .ok) ∈ outs := by
  revert h
  exact hardCheck_cases (fun r => _ ∈ r.2 → _)
    (fun _ h => (List.mem_append.mp h).resolve_right fun h => nomatch nil_of_mem h) id id

theorem stepResult_ok_verdict {s : State} {p : Nat} {e : Err} {b : Nat}
    (h : Out.verdict b (.res .ok) ∈ (stepResult s p e).2) :
    ∃ w job bp, e = .ok ∧ findW s.workers p = some w ∧ w.active = some job ∧
      b = (s.queries.lookup job.idx).getD 0 ∧ findB s.batches b = some bp ∧ bp.rem = 1 ∧
      job.idx ∈ (stepResult s p e).1.okd := by
  cases hw : findW s.workers p with
  | none => rw [stepResult_unknown hw] at h; nomatch nil_of_mem h
  | some w =>
    cases ha : w.active with
    | none => rw [stepResult_idle hw ha] at h; nomatch nil_of_mem h
    | some job =>
      cases hf : findB s.batches ((s.queries.lookup job.idx).getD 0) with
      | none => rw [stepResult_ended hw ha rfl hf] at h; nomatch nil_of_mem h
      | some bp =>
        suffices e = .ok ∧ b = (s.queries.lookup job.idx).getD 0 ∧ bp.rem = 1 ∧
            job.idx ∈ (stepResult s p e).1.okd from
          ⟨w, job, bp, this.1, rfl, ha, this.2.1, this.2.1 ▸ hf, this.2.2⟩
        revert h
        by_cases he : e = .ok
        · rw [he, stepResult_ok hw ha rfl hf]
          refine if_elim (fun r => _ ∈ r.2 → _ ∧ _ ∧ _ ∧ _ ∈ r.1.okd) (fun hr h => ?_)
            (fun _ h => nomatch nil_of_mem (hardCheck_no_ok h))
          cases h with
          | tail _ h => cases List.mem_singleton.mp h; exact ⟨rfl, rfl, beq_iff_eq.mp hr, List.mem_cons_self⟩
        by_cases he' : e = .canceled
        · rw [he', stepResult_canceled hw ha rfl hf]; exact fun h => nomatch nil_of_mem h
        · rw [stepResult_failed hw ha rfl hf he he']
          refine if_elim (fun r => _ ∈ r.2 → _ ∧ _ ∧ _ ∧ _ ∈ r.1.okd) (fun _ h => ?_)
            (fun _ h => nomatch nil_of_mem (hardCheck_no_ok h))
          cases h with
          | tail _ h => cases h with
            | head => exact absurd rfl he
            | tail _ h => nomatch nil_of_mem h

theorem step_ok_verdict (s : State) (e : Ev) (b : Nat) (h : Out.verdict b (.res .ok) ∈ (step s e).2) :
    ∃ p w job bp, e = .result p .ok ∧ s.quit = false ∧ findW s.workers p = some w ∧ w.active = some job ∧
      b = (s.queries.lookup job.idx).getD 0 ∧ findB s.batches b = some bp ∧ bp.rem = 1 ∧
      job.idx ∈ (step s e).1.okd := by
  revert h
  refine step_cases (P := fun e r => Out.verdict b (.res .ok) ∈ r.2 → ∃ p w job bp, e = .result p .ok ∧
      s.quit = false ∧ findW s.workers p = some w ∧ w.active = some job ∧
      b = (s.queries.lookup job.idx).getD 0 ∧ findB s.batches b = some bp ∧ bp.rem = 1 ∧ job.idx ∈ r.1.okd)
    s e (ignored := fun h => nomatch nil_of_mem h) (late := fun _ _ _ _ _ _ h => nomatch nil_of_mem h)
    (quit := fun _ h => ?quit)
    (exit := fun _ p => stepExit_cases (fun r => _ ∈ r.2 → _) (fun _ h => nomatch nil_of_mem h) fun _ _ h => nomatch h)
    (elapse := fun _ _ h => nomatch h)
    (accept := fun _ p => stepAccept_cases (fun r => _ ∈ r.2 → _) (fun h => nomatch nil_of_mem h)
      fun _ _ _ _ h => nomatch nil_of_mem h)
    (newBatch := fun _ _ _ _ _ _ _ h => nomatch h) (peer := fun _ _ _ h => nomatch h)
    (result := fun hq _ p err h => ?result)
    (wake := fun _ _ b' g => stepWake_cases (fun r => _ ∈ r.2 → _) (fun h => nomatch h)
      fun _ _ _ h => nomatch nil_of_mem h)
  case quit =>
    obtain ⟨_, _, hx⟩ := List.mem_map.mp h
    nomatch hx
  case result =>
    obtain ⟨w, job, bp, he, h'⟩ := stepResult_ok_verdict h
    exact ⟨p, w, job, bp, he ▸ rfl, hq, h'⟩

end Neutrino.Disp
