/-
A generic mutex-protected object and the interleaving theorem for a Go type
that guards all of its shared state with one lock; instantiated for
cache/lru.Cache (Props/C16) and the ban store's bbolt write transaction
(Props/C13).

A method call, once it holds the lock, is any finite sequence of micro-steps
on the shared state with a thread-local accumulator (`Loc`); the last
micro-step releases the lock and yields the result.  Other threads can only
take the lock when it is free.  Theorem `lock_serializes`: for EVERY schedule,
every number of threads and every decomposition into micro-steps, whenever the
lock is free the shared state is the one produced by running the completed
calls one after the other, atomically, in lock-acquisition order, and each
call returned what that sequential run returns.
-/
namespace Neutrino.LockObj

structure Obj (σ ι ρ : Type) where
  Loc   : Type
  start : ι → Loc
  /-- one micro-step inside the critical section: continue or finish -/
  micro : σ → Loc → σ × (Loc ⊕ ρ)

variable {σ ι ρ : Type}

/-- `Partial o s l s' l'`: some micro-steps from `(s,l)` reach `(s',l')` without finishing. -/
inductive Partial (o : Obj σ ι ρ) : σ → o.Loc → σ → o.Loc → Prop
  | refl (s l) : Partial o s l s l
  | step {s l s1 l1 s2 l2} : Partial o s l s1 l1 → o.micro s1 l1 = (s2, .inl l2) → Partial o s l s2 l2

/-- Big-step (atomic) execution of one call. -/
def Exec (o : Obj σ ι ρ) (s : σ) (i : ι) (s' : σ) (r : ρ) : Prop :=
  ∃ s1 l1, Partial o s (o.start i) s1 l1 ∧ o.micro s1 l1 = (s', .inr r)

/-- Sequential replay of a log of completed calls. -/
inductive Replay (o : Obj σ ι ρ) (s0 : σ) : List (Nat × ι × ρ) → σ → Prop
  | nil : Replay o s0 [] s0
  | snoc {log s s' t i r} : Replay o s0 log s → Exec o s i s' r → Replay o s0 (log ++ [(t, i, r)]) s'

structure Conf (o : Obj σ ι ρ) where
  shared : σ
  holder : Option (Nat × ι × o.Loc)
  log    : List (Nat × ι × ρ)

inductive Ev (ι : Type) where
  | acquire (t : Nat) (i : ι)   -- thread t's next call takes the lock (only if free)
  | micro (t : Nat)             -- the lock holder t performs one micro-step
  | other (t : Nat)             -- any step of any thread outside a critical section

def cstep (o : Obj σ ι ρ) (c : Conf o) : Ev ι → Conf o
  | .acquire t i =>
    match c.holder with
    | none => { c with holder := some (t, i, o.start i) }
    | some _ => c                                   -- blocked: nothing happens
  | .micro t =>
    match c.holder with
    | some (t', i, l) =>
      if t = t' then
        match o.micro c.shared l with
        | (s', .inl l') => { c with shared := s', holder := some (t', i, l') }
        | (s', .inr r) => { shared := s', holder := none, log := c.log ++ [(t', i, r)] }
      else c
    | none => c
  | .other _ => c

def crun (o : Obj σ ι ρ) (c : Conf o) : List (Ev ι) → Conf o
  | [] => c
  | e :: es => crun o (cstep o c e) es

def CInv (o : Obj σ ι ρ) (s0 : σ) (c : Conf o) : Prop :=
  match c.holder with
  | none => Replay o s0 c.log c.shared
  | some (_, i, l) => ∃ s1, Replay o s0 c.log s1 ∧ Partial o s1 (o.start i) c.shared l

theorem cinv_step (o : Obj σ ι ρ) (s0 : σ) (c : Conf o) (e : Ev ι) (h : CInv o s0 c) :
    CInv o s0 (cstep o c e) := by
  obtain ⟨sh, hd, lg⟩ := c
  cases e with
  | other t => exact h
  | acquire t i =>
    cases hd with
    | none => exact ⟨sh, h, Partial.refl _ _⟩
    | some x => exact h
  | micro t =>
    cases hd with
    | none => exact h
    | some x =>
      obtain ⟨t', i, l⟩ := x
      obtain ⟨s1, hr, hp⟩ := h
      show CInv o s0 (if t = t' then _ else _)
      split
      · cases hm : o.micro sh l with
        | mk s' res =>
          cases res with
          | inl l' => exact ⟨s1, hr, Partial.step hp hm⟩
          | inr r => exact Replay.snoc hr ⟨sh, l, hp, hm⟩
      · exact ⟨s1, hr, hp⟩

theorem cinv_run (o : Obj σ ι ρ) (s0 : σ) (evs : List (Ev ι)) (c : Conf o) (h : CInv o s0 c) :
    CInv o s0 (crun o c evs) := by
  induction evs generalizing c with
  | nil => exact h
  | cons e es ih => exact ih _ (cinv_step o s0 c e h)

/-- For every schedule: whenever the lock is free, the shared state and every
returned result are those of the atomic, sequential execution of the
completed calls in lock-acquisition order. -/
theorem lock_serializes (o : Obj σ ι ρ) (s0 : σ) (evs : List (Ev ι)) :
    let c := crun o { shared := s0, holder := none, log := [] } evs
    c.holder = none → Replay o s0 c.log c.shared := by
  intro c hn
  have h : CInv o s0 c := cinv_run o s0 evs _ Replay.nil
  unfold CInv at h
  rwa [hn] at h

/-- While a call is in its critical section nobody else has changed the shared
state since it acquired the lock: it sees exactly its own partial effects. -/
theorem holder_sees_own_effects (o : Obj σ ι ρ) (s0 : σ) (evs : List (Ev ι)) :
    let c := crun o { shared := s0, holder := none, log := [] } evs
    ∀ t i l, c.holder = some (t, i, l) →
      ∃ s1, Replay o s0 c.log s1 ∧ Partial o s1 (o.start i) c.shared l := by
  intro c t i l hh
  have h : CInv o s0 c := cinv_run o s0 evs _ Replay.nil
  unfold CInv at h
  rwa [hh] at h

/-- A call that is one micro-step `f` (every micro-step finishes) executes as `f`. -/
theorem Exec.atomic {o : Obj σ ι ρ} {f : σ → o.Loc → σ × ρ} (hm : ∀ s l, o.micro s l = ((f s l).1, .inr (f s l).2))
    {s s' : σ} {i : ι} {r : ρ} (h : Exec o s i s' r) : f s (o.start i) = (s', r) := by
  obtain ⟨s1, l1, hp, hfin⟩ := h
  cases hp with
  | refl => rw [hm] at hfin; cases hfin; rfl
  | step _ hc => rw [hm] at hc; cases hc

end Neutrino.LockObj
