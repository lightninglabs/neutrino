/-
Prelude of the Go→Lean translator (`extract/trans*.go` → `Gen/Trans*.lean`).  Core Lean only.

Go's machine integers as the translator renders them:
* signed integer types are `Int`; signed overflow is NOT modelled (idealisation: heights, sizes and
  counts stay below 2^31, see DESIGN §4);
* unsigned integer types are `Nat`, and every operation that can wrap is a NAMED operation of this
  file (`uadd w`, `usub w`, `umul w`, `toU w`) so that wrap-around is visible in the translated term
  and a theorem has to discharge "in range" explicitly (`usub_of_le`, `uadd_of_lt`, …);
* slices are `List`s, `*Struct` is `Option Struct`, types the translator does not look into
  (hashes, interface values, channels, …) are atoms (`Atom = Nat`: only equality is ever used);
* run-time panics are not modelled: an index out of range / a nil dereference yields the type's
  `default` (= Go's zero value) in the translated term, a division by zero yields 0.  Theorems about a translated function speak
  about the code on the inputs on which the code does not panic.
-/
namespace Neutrino.GoInt

abbrev Atom := Nat

/-- result of a translated loop whose body contains `return`: fell out of the loop with the
loop-carried state, or returned from the enclosing function -/
inductive Ctl (σ ρ : Type) where
  | fall (s : σ)
  | ret (r : ρ)

def len {α} (xs : List α) : Int := Int.ofNat xs.length

/-- `xs[i]` for a signed index (out of range: `default`, the code panics there) -/
def idx {α} [Inhabited α] (xs : List α) (i : Int) : α :=
  if i < 0 then default else xs.getD i.toNat default

/-- `xs[i]` for an unsigned index -/
def idxN {α} [Inhabited α] (xs : List α) (i : Nat) : α := xs.getD i default

/-- `*p` / `p.f` on a pointer (nil: `default`, the code panics there) -/
def deref {α} [Inhabited α] : Option α → α
  | some a => a
  | none => default

/-- the values of `i` in `for i := lo; i < hi; i++` -/
def rangeUp (lo hi : Int) : List Int := (List.range (hi - lo).toNat).map (fun k => lo + Int.ofNat k)
/-- the values of `i` in `for i := hi; i >= lo; i--` -/
def rangeDown (hi lo : Int) : List Int := (rangeUp lo (hi + 1)).reverse
/-- `for i := lo; i < hi; i++` with an unsigned counter -/
def rangeUpN (lo hi : Nat) : List Nat := (List.range (hi - lo)).map (fun k => lo + k)

/-- `for i, v := range xs` when the body uses the index -/
def enumFrom {α} : Int → List α → List (Int × α)
  | _, [] => []
  | i, x :: xs => (i, x) :: enumFrom (i + 1) xs
def enum {α} (xs : List α) : List (Int × α) := enumFrom 0 xs

/-- `xs[a:b]` -/
def slice {α} (xs : List α) (a b : Int) : List α := (xs.take b.toNat).drop a.toNat
/-- `xs[i] = v` -/
def setIdx {α} (xs : List α) (i : Int) (v : α) : List α := if i < 0 then xs else xs.set i.toNat v

/-! ### unsigned arithmetic, width `w` -/

def wrap (w n : Nat) : Nat := n % 2 ^ w
def uadd (w a b : Nat) : Nat := wrap w (a + b)
def usub (w a b : Nat) : Nat := if b ≤ a then a - b else wrap w (a + 2 ^ w - b)
def umul (w a b : Nat) : Nat := wrap w (a * b)
def ushl (w a n : Nat) : Nat := wrap w (a * 2 ^ n)
/-- conversion of a signed value to an unsigned type of width `w` (two's complement) -/
def toU (w : Nat) (x : Int) : Nat := (x % ((2 ^ w : Nat) : Int)).toNat

theorem wrap_of_lt {w n : Nat} (h : n < 2 ^ w) : wrap w n = n := Nat.mod_eq_of_lt h
theorem uadd_of_lt {w a b : Nat} (h : a + b < 2 ^ w) : uadd w a b = a + b := wrap_of_lt h
theorem usub_of_le {w a b : Nat} (h : b ≤ a) : usub w a b = a - b := if_pos h
theorem umul_of_lt {w a b : Nat} (h : a * b < 2 ^ w) : umul w a b = a * b := wrap_of_lt h
theorem usub_of_lt {w a b : Nat} (h : a < b) (hb : b ≤ 2 ^ w) : usub w a b = a + 2 ^ w - b := by
  rw [usub, if_neg (Nat.not_le.mpr h)]
  exact wrap_of_lt (Nat.sub_lt_left_of_lt_add (Nat.le_trans hb (Nat.le_add_left _ _)) (Nat.add_lt_add_right h _))
theorem toU_of_nonneg {w : Nat} {x : Int} (h0 : 0 ≤ x) (h : x < ((2 ^ w : Nat) : Int)) : toU w x = x.toNat := by
  unfold toU
  rw [Int.emod_eq_of_lt h0 h]

/-! ### bit operations on signed values (two's complement, arbitrary precision) -/

def iand : Int → Int → Int
  | .ofNat a, .ofNat b => .ofNat (a &&& b)
  | .ofNat a, .negSucc b => .ofNat (a ^^^ (a &&& b))
  | .negSucc a, .ofNat b => .ofNat (b ^^^ (b &&& a))
  | .negSucc a, .negSucc b => .negSucc (a ||| b)

def ior : Int → Int → Int
  | .ofNat a, .ofNat b => .ofNat (a ||| b)
  | .ofNat a, .negSucc b => .negSucc (b ^^^ (b &&& a))
  | .negSucc a, .ofNat b => .negSucc (a ^^^ (a &&& b))
  | .negSucc a, .negSucc b => .negSucc (a &&& b)

theorem iand_ofNat (a b : Nat) : iand (Int.ofNat a) (Int.ofNat b) = Int.ofNat (a &&& b) := rfl
theorem iand_natCast (a b : Nat) : iand (a : Int) (b : Int) = ((a &&& b : Nat) : Int) := rfl

/-! ### lists -/

@[simp] theorem deref_some {α} [Inhabited α] (a : α) : deref (some a) = a := rfl
@[simp] theorem len_nil {α} : len ([] : List α) = 0 := rfl
theorem len_eq {α} (xs : List α) : len xs = (xs.length : Int) := rfl
theorem len_nonneg {α} (xs : List α) : 0 ≤ len xs := Int.natCast_nonneg _
theorem len_eq_zero {α} {xs : List α} : len xs = 0 ↔ xs = [] :=
  ⟨fun h => List.eq_nil_of_length_eq_zero (Int.ofNat.inj h), fun h => h ▸ rfl⟩

theorem idx_natCast {α} [Inhabited α] (xs : List α) (n : Nat) : idx xs (n : Int) = xs.getD n default := by
  rw [idx, if_neg (Int.not_lt.mpr (Int.natCast_nonneg n)), Int.toNat_natCast]

/-- `for i := 0; i < hi; i++ { … xs[i] … }` with `hi ≤ len(xs)` visits the first `hi` elements of `xs` in order -/
theorem map_idx_rangeUp_take {α} [Inhabited α] (xs : List α) (hi : Int) (h : hi.toNat ≤ xs.length) :
    (rangeUp 0 hi).map (idx xs) = xs.take hi.toNat := by
  apply List.ext_getElem
  · simp [rangeUp, Nat.min_eq_left h]
  · intro i h1 h2
    have : i < xs.length := Nat.lt_of_lt_of_le h2 (List.length_take_le' _ _)
    simp [rangeUp, idx_natCast, this]

/-- `for i := 0; i < len(xs); i++ { … xs[i] … }` visits the elements of `xs` in order -/
theorem map_idx_rangeUp {α} [Inhabited α] (xs : List α) : (rangeUp 0 (len xs)).map (idx xs) = xs := by
  have h : (len xs).toNat = xs.length := Int.toNat_natCast _
  rw [map_idx_rangeUp_take xs _ (Nat.le_of_eq h), h, List.take_length]

/-- `for i := len(xs)-1-k; i >= 0; i-- { … xs[i] … }` visits `xs` without its last `k` elements,
back to front -/
theorem map_idx_rangeDown {α} [Inhabited α] (xs : List α) (k : Nat) :
    (rangeDown (len xs - 1 - (k : Int)) 0).map (idx xs) = (xs.take (xs.length - k)).reverse := by
  have h : (len xs - 1 - (k : Int) + 1).toNat = xs.length - k := by
    rw [Int.sub_sub, Int.add_comm 1, ← Int.sub_sub, Int.sub_add_cancel, len_eq, Int.toNat_sub]
  rw [rangeDown, List.map_reverse, map_idx_rangeUp_take xs _ (h ▸ Nat.sub_le _ _), h]

/-! ### maps as association lists (lookups only; iteration order is never observed) -/

def mlookup {κ ν} [BEq κ] [Inhabited ν] (m : List (κ × ν)) (k : κ) : ν :=
  match m.find? (fun e => e.1 == k) with
  | some e => e.2
  | none => default
def mhas {κ ν} [BEq κ] (m : List (κ × ν)) (k : κ) : Bool := m.any (fun e => e.1 == k)
def merase {κ ν} [BEq κ] (m : List (κ × ν)) (k : κ) : List (κ × ν) := m.filter (fun e => !(e.1 == k))
def minsert {κ ν} [BEq κ] (m : List (κ × ν)) (k : κ) (v : ν) : List (κ × ν) := (k, v) :: merase m k

end Neutrino.GoInt
